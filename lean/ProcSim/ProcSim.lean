import ProcSim.Model.Basic
import ProcSim.Model.Types
import ProcSim.Model.Queue
import ProcSim.Model.Sim
import ProcSim.Model.Loader
import ProcSim.Model.LoaderMsg
import ProcSim.Model.LoaderOrder
import ProcSim.Model.ICase
import ProcSim.Model.Bag
import ProcSim.Model.Program
import ProcSim.Model.Isa
import ProcSim.Model.Cli
import ProcSim.Model.Pipeline
import ProcSim.Model.Canon
import ProcSim.Spec.Sim
import ProcSim.Spec.Queue
import ProcSim.Spec.Loader
import ProcSim.Spec.Text
import ProcSim.Lemmas.ListAux
import ProcSim.Lemmas.AMap
import ProcSim.Lemmas.Sort
import ProcSim.Lemmas.Checker
import ProcSim.Lemmas.ICase
import ProcSim.Lemmas.Forall2
import ProcSim.Lemmas.ExceptRel
import ProcSim.Lemmas.SimCore
import ProcSim.Lemmas.RoutesCore
import ProcSim.Lemmas.Routes
import ProcSim.Lemmas.Queue
import ProcSim.Props.C19
import ProcSim.Lemmas.AccessPlan
import ProcSim.Lemmas.LockRoutes
import ProcSim.Lemmas.HazardInv
import ProcSim.Lemmas.Hazards
import ProcSim.Lemmas.Advance
import ProcSim.Lemmas.Issue
import ProcSim.Lemmas.Bag
import ProcSim.Props.C17
import ProcSim.Lemmas.Termination
import ProcSim.Lemmas.TerminationBridge
import ProcSim.Props.C01
import ProcSim.Props.C02
import ProcSim.Props.C03
import ProcSim.Props.C04
import ProcSim.Props.C05
import ProcSim.Props.C06
import ProcSim.Props.C06b
import ProcSim.Props.C07
import ProcSim.Props.C08
import ProcSim.Props.Marathon
import ProcSim.Lemmas.LoaderGraph
import ProcSim.Lemmas.LoaderRoutes
import ProcSim.Lemmas.LoaderLocks
import ProcSim.Lemmas.LoaderC10
import ProcSim.Lemmas.LoaderC10Check
import ProcSim.Lemmas.LoaderBridge
import ProcSim.Lemmas.LoaderDefects
import ProcSim.Lemmas.LoaderMsg
import ProcSim.Lemmas.LoadedRoutes
import ProcSim.Lemmas.OrderIndep
import ProcSim.Props.C09
import ProcSim.Props.C10
import ProcSim.Props.C11
import ProcSim.Props.C11msg
import ProcSim.Props.C12
import ProcSim.Props.C20
import ProcSim.Lemmas.Words
import ProcSim.Lemmas.Program
import ProcSim.Lemmas.Isa
import ProcSim.Lemmas.Cli
import ProcSim.Lemmas.CliCompose
import ProcSim.Lemmas.Recase
import ProcSim.Lemmas.Pipeline
import ProcSim.Props.C13
import ProcSim.Props.C14
import ProcSim.Props.C15
import ProcSim.Props.C16
import ProcSim.Props.C18
import ProcSim.Props.C16b
import ProcSim.Props.LoadedWF
import ProcSim.Props.C16c
import ProcSim.PyLite
import ProcSim.Lemmas.PyLite
import ProcSim.Gen.RegAccess
import ProcSim.Gen.SimUtils
import ProcSim.Gen.AccPlan
import ProcSim.Props.C19gen
import ProcSim.Props.SimUtilsGen
import ProcSim.Props.AccPlanGen
