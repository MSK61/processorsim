import ProcSim.Lemmas.RoutesCore
import ProcSim.Lemmas.ListAux
import ProcSim.Lemmas.Sort
/-!
# Walks along connections and where the locks are on them

`wfProc` checks `routeLocksOK` on every maximal route of `routesFrom`: each kind of lock is held at exactly one position
of the route, the read lock not after the write lock. A walk (`IsWalk`) from an input-boundary port along declared
connections through units supporting a capability is a prefix of such a route (`walk_in_route`; connections lead to units
processed earlier, so the fuel of `routesFrom` covers it). Hence `walk_locks`: no unit before the last unit of the walk
holds a lock the last unit holds, and a last unit with the write lock only comes after the read-locking unit; and
`maximal_walk_locks`: a walk ending at the output boundary is a whole route and passes both locks.
-/
namespace ProcSim
open Spec

variable {N : Type} [DecidableEq N]

namespace Hazards

/-- unit `u` holds the lock of kind `wr` (`false` = read lock, `true` = write lock) -/
def lockOf : Bool → UnitM N → Bool
  | true, u => u.wr
  | false, u => u.rd

@[simp] theorem lockOf_true (u : UnitM N) : lockOf true u = u.wr := rfl
@[simp] theorem lockOf_false (u : UnitM N) : lockOf false u = u.rd := rfl

/-- a non-empty path along declared connections through units supporting capability `c` -/
def IsWalk (p : Proc N) (c : N) : List (UnitM N) → Prop
  | [] => False
  | [u] => c ∈ u.caps
  | u :: v :: rest => c ∈ u.caps ∧ v ∈ succsOf p u.name ∧ IsWalk p c (v :: rest)

theorem IsWalk.snoc {p : Proc N} {c : N} {w : List (UnitM N)} {q u : UnitM N} (h : IsWalk p c (w ++ [q]))
    (hs : u ∈ succsOf p q.name) (hc : c ∈ u.caps) : IsWalk p c (w ++ [q] ++ [u]) := by
  induction w with
  | nil => exact ⟨h, hs, hc⟩
  | cons a t ih =>
    cases t with
    | nil => exact ⟨h.1, h.2.1, ih h.2.2⟩
    | cons b t' => exact ⟨h.1, h.2.1, ih h.2.2⟩

/-- every step lowers the rank -/
theorem IsWalk.length_le {p : Proc N} (ho : orderOK p = true) {c : N} {u : UnitM N} {rest : List (UnitM N)}
    (h : IsWalk p c (u :: rest)) : rest.length ≤ unitRank p u.name := by
  induction rest generalizing u with
  | nil => simp
  | cons v t ih =>
    have := ih h.2.2
    obtain ⟨d, hd, hq, rfl⟩ := Routes.mem_succsOf.1 h.2.1
    have := unitRank_lt_of_mem_preds ho hd hq
    simp only [List.length_cons]; omega

theorem mem_routesFrom_succ {p : Proc N} {c : N} {f : Nat} {u : UnitM N} {r : List (UnitM N)} :
    r ∈ routesFrom p c (f + 1) u ↔
      ((succsOf p u.name).filter (fun v => decide (c ∈ v.caps)) = [] ∧ r = [u]) ∨
      ∃ v ∈ (succsOf p u.name).filter (fun v => decide (c ∈ v.caps)), ∃ r' ∈ routesFrom p c f v, r = u :: r' := by
  rw [routesFrom]
  split
  · next he => simp [List.isEmpty_iff.1 he]
  · next hne =>
    have hne' : (succsOf p u.name).filter (fun v => decide (c ∈ v.caps)) ≠ [] := fun e => hne (by simp [e])
    simp only [List.mem_map, List.mem_flatMap, hne', false_and, false_or]
    constructor
    · rintro ⟨r', ⟨v, hv, hr'⟩, rfl⟩
      exact ⟨v, hv, r', hr', rfl⟩
    · rintro ⟨v, hv, r', hr', rfl⟩
      exact ⟨r', ⟨v, hv, hr'⟩, rfl⟩

theorem routesFrom_head (p : Proc N) (c : N) (fuel : Nat) (v : UnitM N) :
    ∀ r ∈ routesFrom p c fuel v, ∃ t, r = v :: t := by
  intro r hr
  cases fuel with
  | zero => simp [routesFrom] at hr; exact ⟨[], hr⟩
  | succ f =>
    rcases mem_routesFrom_succ.1 hr with ⟨_, rfl⟩ | ⟨_, _, r', _, rfl⟩
    · exact ⟨[], rfl⟩
    · exact ⟨r', rfl⟩

theorem routesFrom_ne_nil (p : Proc N) (c : N) (fuel : Nat) (u : UnitM N) : ∃ r, r ∈ routesFrom p c fuel u := by
  induction fuel generalizing u with
  | zero => exact ⟨[u], by simp [routesFrom]⟩
  | succ f ih =>
    cases hn : (succsOf p u.name).filter (fun v => decide (c ∈ v.caps)) with
    | nil => exact ⟨[u], mem_routesFrom_succ.2 (Or.inl ⟨hn, rfl⟩)⟩
    | cons v vs =>
      obtain ⟨r, hr⟩ := ih v
      exact ⟨u :: r, mem_routesFrom_succ.2 (Or.inr ⟨v, by rw [hn]; exact List.mem_cons_self, r, hr, rfl⟩)⟩

theorem IsWalk.prefix_route {p : Proc N} {c : N} {u : UnitM N} {rest : List (UnitM N)} (h : IsWalk p c (u :: rest))
    {fuel : Nat} (hf : rest.length ≤ fuel) : ∃ r ∈ routesFrom p c fuel u, (u :: rest) <+: r := by
  induction rest generalizing u fuel with
  | nil =>
    obtain ⟨r, hr⟩ := routesFrom_ne_nil p c fuel u
    obtain ⟨t, rfl⟩ := routesFrom_head p c fuel u r hr
    exact ⟨_, hr, by simp⟩
  | cons v t ih =>
    cases fuel with
    | zero => simp at hf
    | succ f =>
      obtain ⟨r, hr, hpre⟩ := ih h.2.2 (fuel := f) (by simpa using hf)
      have hv : v ∈ (succsOf p u.name).filter (fun v => decide (c ∈ v.caps)) := by
        refine List.mem_filter.2 ⟨h.2.1, ?_⟩
        have : c ∈ v.caps := by
          cases t with
          | nil => exact h.2.2
          | cons _ _ => exact h.2.2.1
        simpa using this
      exact ⟨u :: r, mem_routesFrom_succ.2 (Or.inr ⟨v, hv, r, hr, rfl⟩), (List.prefix_cons_inj u).2 hpre⟩

omit [DecidableEq N] in
theorem routeLocksOK_positions {r : List (UnitM N)} (h : routeLocksOK r = true) :
    ∃ pos : Bool → Nat, pos false ≤ pos true ∧
      ∀ k, (∀ (j : Nat) (v : UnitM N), r[j]? = some v → lockOf k v = true → j = pos k) ∧
        ∃ v : UnitM N, r[pos k]? = some v ∧ lockOf k v = true := by
  unfold routeLocksOK at h
  simp only at h
  split at h
  · next a b ha hb =>
    refine ⟨fun k => if k then b else a, by simpa using h, fun k => ?_⟩
    cases k with
    | false => exact unique_pos_of_filter ha
    | true => exact unique_pos_of_filter hb
  · cases h

/-- The fuel `wfProc` gives to `routesFrom` covers the walk, because connections lead to units processed earlier. -/
theorem walk_in_route {p : Proc N} (hwf : wfProc p = true) {c : N} {W : List (UnitM N)} (hw : IsWalk p c W)
    (hstart : ∃ v0 ∈ p.inBoundary, W.head? = some v0) :
    ∃ v0 ∈ p.inBoundary, ∃ r ∈ routesFrom p c p.allUnits.length v0, W <+: r ∧ routeLocksOK r = true := by
  obtain ⟨v0, hv0, hhead⟩ := hstart
  obtain ⟨rest, rfl⟩ : ∃ rest, W = v0 :: rest := by
    cases W with
    | nil => cases hhead
    | cons a t => exact ⟨t, by rw [Option.some.inj hhead]⟩
  have hlen : rest.length ≤ p.allUnits.length := by
    have h1 := hw.length_le (wfProc_orderOK hwf)
    have h2 := unitRank_le p v0.name
    have h3 : p.dests.length ≤ p.allUnits.length := by
      simp only [Proc.allUnits, Proc.dests, List.length_append, List.length_map]; omega
    omega
  obtain ⟨r, hr, hpre⟩ := hw.prefix_route hlen
  have hc0 : c ∈ v0.caps := by
    cases rest with
    | nil => exact hw
    | cons _ _ => exact hw.1
  have hcap : c ∈ allCaps p := by
    unfold allCaps
    rw [ISort.mem_dedup, List.mem_flatMap]
    exact ⟨v0, mem_allUnits_of_mem_inBoundary hv0, hc0⟩
  exact ⟨v0, hv0, r, hr, hpre, wfProc_routes hwf c hcap v0 hv0 hc0 r hr⟩

theorem walk_locks {p : Proc N} (hwf : wfProc p = true) {c : N} {w : List (UnitM N)} {u : UnitM N}
    (hw : IsWalk p c (w ++ [u])) (hstart : ∃ v0 ∈ p.inBoundary, (w ++ [u]).head? = some v0) :
    (∀ k, lockOf k u = true → w.any (lockOf k) = false) ∧
    (u.wr = true → u.rd = false → w.any (lockOf false) = true) := by
  obtain ⟨_, _, r, _, ⟨t, ht⟩, hok⟩ := walk_in_route hwf hw hstart
  obtain ⟨pos, hle, hpos⟩ := routeLocksOK_positions hok
  -- the walk is the beginning of `r`: `u` stands at position `w.length`, the units of `w` before it
  have hget : ∀ k, k < (w ++ [u]).length → r[k]? = (w ++ [u])[k]? := by
    intro k hk; rw [← ht]; exact List.getElem?_append_left hk
  have hu : r[w.length]? = some u := by
    rw [hget _ (by simp)]; simp
  have hwk : ∀ v ∈ w, ∃ k, k < w.length ∧ r[k]? = some v := by
    intro v hv
    obtain ⟨k, hk⟩ := List.mem_iff_getElem?.1 hv
    have hlt : k < w.length := (List.getElem?_eq_some_iff.1 hk).1
    refine ⟨k, hlt, ?_⟩
    rw [hget k (by simp; omega), List.getElem?_append_left hlt]; exact hk
  refine ⟨fun k hku => ?_, fun huwr hurd => ?_⟩
  · have ea := (hpos k).1 _ _ hu hku
    rw [List.any_eq_false]
    intro v hv hvk
    obtain ⟨j, hj, hrj⟩ := hwk v hv
    have := (hpos k).1 _ _ hrj hvk
    omega
  · have eb := (hpos true).1 _ _ hu huwr
    obtain ⟨va, hva, hvard⟩ := (hpos false).2
    have hne : pos false ≠ w.length := by
      intro e; rw [e, hu] at hva; cases hva; rw [lockOf_false, hurd] at hvard; cases hvard
    have hlt : pos false < w.length := by omega
    rw [List.any_eq_true]
    refine ⟨va, ?_, hvard⟩
    rw [hget _ (by simp; omega), List.getElem?_append_left hlt] at hva
    exact List.mem_of_getElem? hva

theorem routesFrom_next {p : Proc N} {c : N} {fuel : Nat} {v : UnitM N} {r l t : List (UnitM N)} {a x : UnitM N}
    (hr : r ∈ routesFrom p c fuel v) (e : r = l ++ a :: x :: t) : x ∈ succsOf p a.name := by
  induction fuel generalizing v r l with
  | zero =>
    simp only [routesFrom, List.mem_singleton] at hr
    have := congrArg List.length (hr.symm.trans e)
    simp at this
    omega
  | succ f ih =>
    rcases mem_routesFrom_succ.1 hr with ⟨_, rfl⟩ | ⟨w, hw, r', hr', rfl⟩
    · have := congrArg List.length e
      simp at this
      omega
    · obtain ⟨t', rfl⟩ := routesFrom_head p c f w r' hr'
      cases l with
      | nil =>
        obtain ⟨rfl, e'⟩ := List.cons.inj e
        obtain ⟨rfl, _⟩ := List.cons.inj e'
        exact (List.mem_filter.1 hw).1
      | cons b l' => exact ih hr' (List.cons.inj e).2

/-- The walk is a whole route, since nothing is connected behind the output boundary. -/
theorem maximal_walk_locks {p : Proc N} (hwf : wfProc p = true) {c : N} {w : List (UnitM N)} {u : UnitM N}
    (hw : IsWalk p c (w ++ [u])) (hstart : ∃ v0 ∈ p.inBoundary, (w ++ [u]).head? = some v0)
    (hout : u.name ∈ p.outBoundary) : ∀ k, (w ++ [u]).any (lockOf k) = true := by
  obtain ⟨v0, _, r, hr, ⟨t, ht⟩, hok⟩ := walk_in_route hwf hw hstart
  have htnil : t = [] := by
    cases t with
    | nil => rfl
    | cons x t' =>
      exfalso
      obtain ⟨d, hd, hq, _⟩ := Routes.mem_succsOf.1 (routesFrom_next hr (ht.symm.trans (List.append_assoc w [u] _)))
      exact (orderOK_pred (wfProc_orderOK hwf) hd hq).2.1 hout
  subst htnil
  rw [List.append_nil] at ht
  subst ht
  obtain ⟨pos, _, hpos⟩ := routeLocksOK_positions hok
  intro k
  obtain ⟨v, hv, hvk⟩ := (hpos k).2
  exact List.any_eq_true.2 ⟨v, List.mem_of_getElem? hv, hvk⟩

end Hazards
end ProcSim
