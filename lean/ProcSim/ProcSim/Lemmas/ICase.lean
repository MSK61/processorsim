import ProcSim.Spec.Text
/-!
# The model's string order and substring test are those of core Lean

`ICase.strLt` / `ICase.strLe` mirror Python's comparison of `str` by code points. They are core Lean's `<` / `≤`
on `List Char`, so every order fact about them is the core lemma of that name. `ICase.isInfix` (Python's `in` on
`str`) and the window search `Spec.Text.occursB` of the C18 checker both decide `Spec.Text.Occurs`.
-/
namespace ProcSim
namespace ICase

open Spec.Text (Occurs)

theorem strLt_iff (x y : List Char) : strLt x y = true ↔ x < y := by
  induction x generalizing y with
  | nil => cases y <;> simp [strLt]
  | cons a as ih =>
    cases y with
    | nil => simp [strLt]
    | cons b bs =>
      rw [List.cons_lt_cons_iff, ← ih]
      simp only [strLt, Bool.or_eq_true, decide_eq_true_eq, Bool.and_eq_true, beq_iff_eq, Char.lt_def,
        UInt32.lt_iff_toNat_lt]
      exact Iff.rfl

theorem strLe_iff (x y : List Char) : strLe x y = true ↔ x ≤ y := by
  rw [strLe, Bool.not_eq_true', ← Bool.not_eq_true, strLt_iff]
  exact List.not_lt

theorem strLt_trans {x y z : List Char} (h₁ : strLt x y = true) (h₂ : strLt y z = true) : strLt x z = true :=
  (strLt_iff x z).2 (List.lt_trans ((strLt_iff x y).1 h₁) ((strLt_iff y z).1 h₂))

theorem strLe_eq_lt_or_eq (x y : List Char) : strLe x y = (strLt x y || x == y) := by
  rw [Bool.eq_iff_iff, strLe_iff, Bool.or_eq_true, strLt_iff, beq_iff_eq]
  exact List.le_iff_lt_or_eq

/-- `Std.lt_trichotomy` with the two excluded cases spelt out in each branch: the form in which a harness can
test "exactly one of `<`, `==`, `>`" -/
theorem exactly_one_lt_eq_gt (x y : List Char) :
    (x < y ∧ x ≠ y ∧ ¬ y < x) ∨ (¬ x < y ∧ x = y ∧ ¬ y < x) ∨ (¬ x < y ∧ x ≠ y ∧ y < x) := by
  rcases Std.lt_trichotomy x y with h | rfl | h
  · exact .inl ⟨h, Std.ne_of_lt h, List.lt_asymm h⟩
  · exact .inr (.inl ⟨List.lt_irrefl x, rfl, List.lt_irrefl x⟩)
  · exact .inr (.inr ⟨List.lt_asymm h, (Std.ne_of_lt h).symm, h⟩)

theorem strLt_trichotomy (x y : List Char) :
    (strLt x y && !(x == y) && !strLt y x || !strLt x y && (x == y) && !strLt y x ||
      !strLt x y && !(x == y) && strLt y x) = true := by
  simp only [Bool.or_eq_true, Bool.and_eq_true, Bool.not_eq_true', beq_iff_eq, ← Bool.not_eq_true, strLt_iff,
    and_assoc, or_assoc]
  exact exactly_one_lt_eq_gt x y

theorem isPrefix_iff (p s : List Char) : isPrefix p s = true ↔ ∃ suf, s = p ++ suf := by
  induction p generalizing s with
  | nil => simp [isPrefix]
  | cons c cs ih =>
    cases s with
    | nil => simp [isPrefix]
    | cons d ds =>
      simp only [isPrefix, Bool.and_eq_true, beq_iff_eq, ih, List.cons_append, List.cons.injEq]
      constructor
      · rintro ⟨rfl, suf, rfl⟩; exact ⟨suf, rfl, rfl⟩
      · rintro ⟨suf, rfl, rfl⟩; exact ⟨rfl, suf, rfl⟩

theorem isInfix_iff (p s : List Char) : isInfix p s = true ↔ Occurs p s := by
  induction s with
  | nil =>
    simp only [isInfix, List.isEmpty_iff, Occurs]
    constructor
    · rintro rfl; exact ⟨[], [], rfl⟩
    · rintro ⟨pre, suf, h⟩
      have h' := congrArg List.length h
      simp only [List.length_nil, List.length_append] at h'
      exact List.length_eq_zero_iff.1 (by omega)
  | cons c cs ih =>
    simp only [isInfix, Bool.or_eq_true, isPrefix_iff, ih, Occurs]
    constructor
    · rintro (⟨suf, h⟩ | ⟨pre, suf, h⟩)
      · exact ⟨[], suf, by simpa using h⟩
      · exact ⟨c :: pre, suf, by simp [h]⟩
    · rintro ⟨pre, suf, h⟩
      cases pre with
      | nil => exact Or.inl ⟨suf, by simpa using h⟩
      | cons d pre' =>
        simp only [List.cons_append, List.cons.injEq] at h
        exact Or.inr ⟨pre', suf, h.2⟩

end ICase

namespace Spec.Text

theorem occursB_iff (p s : List Char) : occursB p s = true ↔ Occurs p s := by
  simp only [occursB, List.any_eq_true, List.mem_range, beq_iff_eq, Occurs]
  constructor
  · rintro ⟨i, _, h⟩
    refine ⟨s.take i, (s.drop i).drop p.length, ?_⟩
    conv => lhs; rw [← List.take_append_drop i s, ← List.take_append_drop p.length (s.drop i), h]
    rw [List.append_assoc]
  · rintro ⟨pre, suf, rfl⟩
    refine ⟨pre.length, by simp only [List.length_append]; omega, ?_⟩
    rw [List.append_assoc, List.drop_left, List.take_left]

end Spec.Text
end ProcSim
