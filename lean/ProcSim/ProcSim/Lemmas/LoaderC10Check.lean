import ProcSim.Lemmas.LoaderC10
/-!
# The `Bool` side of C10: the path searches of `Spec/Loader.lean` decide `Feeds`, `KeptConn`, `Live`

For a declarative description graph `g : DG N` with pairwise different unit names, connections between listed units
(`ConnIn g`) and no closed walk. Both searches have the shape of `search_iff`: they succeed iff a walk that fits the
fuel exists. The fuel `|names|` is enough because a walk of an acyclic graph never repeats a unit
(`nodup_of_no_closed_walk`); the search for `Feeds` runs against the connections, so its walk is the reverse of
the feeding one.
-/

namespace ProcSim
namespace Loader
open Spec

variable {N : Type} [DecidableEq N]

namespace Spec.DG
variable (g : DG N)

def ConnIn : Prop := ∀ a b, (a, b) ∈ g.conns → a ∈ g.names ∧ b ∈ g.names

variable {g}

theorem conn_iff {a b : N} : g.conn a b = true ↔ (a, b) ∈ g.conns := by
  unfold DG.conn; exact decide_eq_true_iff

theorem mem_preds {u v : N} : v ∈ g.preds u ↔ v ∈ g.names ∧ g.conn v u = true := by
  simp [DG.preds, List.mem_filter]

theorem mem_succs {u v : N} : v ∈ g.succs u ↔ v ∈ g.names ∧ g.conn u v = true := by
  simp [DG.succs, List.mem_filter]

theorem declares_iff {u c : N} : g.declares u c = true ↔ ∃ x ∈ g.units, x.name = u ∧ c ∈ x.caps := by
  simp [DG.declares, List.any_eq_true]

theorem declares_mem_names {u c : N} (h : g.declares u c = true) : u ∈ g.names := by
  obtain ⟨x, hx, rfl, -⟩ := declares_iff.1 h
  exact List.mem_map_of_mem hx

theorem unit?_of_mem (hn : g.names.Nodup) {x : UnitD N} (hx : x ∈ g.units) : g.unit? x.name = some x :=
  find?_key_of_mem (fun x : UnitD N => x.name) (l := g.units) hn hx

theorem unit?_some {u : N} {x : UnitD N} (h : g.unit? u = some x) : x ∈ g.units ∧ x.name = u := by
  unfold DG.unit? at h
  exact ⟨List.mem_of_find?_eq_some h, by simpa using List.find?_some h⟩

theorem Feeds.declares {c u : N} (h : g.Feeds c u) : g.declares u c = true :=
  let ⟨_, _, hd, _, hl⟩ := h
  hd u (List.mem_of_mem_getLast? hl)

theorem Feeds.mem_names {c u : N} (h : g.Feeds c u) : u ∈ g.names := declares_mem_names h.declares

theorem feedsB_iff (hc : g.ConnIn) (ha : g.rgAll.Acyclic) {c u : N} : g.feedsB c u = true ↔ g.Feeds c u := by
  unfold DG.feedsB DG.Feeds
  rw [search_iff (f := g.feedsAux c) (ok := fun u => g.declares u c) (tgt := g.origIn) (step := fun _ _ => true)
    (next := g.preds) (fun _ => rfl) (fun _ _ => rfl)]
  constructor
  · rintro ⟨r, -, hh, hall, ⟨i, hl, hi⟩, hw⟩
    refine ⟨r.reverse, ?_, fun x hx => hall x (List.mem_reverse.1 hx), ⟨i, by rw [List.head?_reverse]; exact hl, hi⟩,
      by rw [List.getLast?_reverse]; exact hh⟩
    exact WalkR_reverse (WalkR.mono (fun a b hab => (mem_preds.1 hab.1).2) hw)
  · rintro ⟨r, hw, hd, ⟨i, hi, ho⟩, hl⟩
    have hnd : r.Nodup := nodup_of_no_closed_walk ha hw
    have hlen := hnd.length_le_of_subset fun x hx => declares_mem_names (hd x hx)
    refine ⟨r.reverse, by rw [List.length_reverse]; exact hlen, by rw [List.head?_reverse]; exact hl,
      fun x hx => hd x (List.mem_reverse.1 hx), ⟨i, by rw [List.getLast?_reverse]; exact hi, ho⟩, ?_⟩
    exact WalkR_reverse (R := fun a b => a ∈ g.preds b ∧ true = true)
      (WalkR.mono (fun a b hab => ⟨mem_preds.2 ⟨(hc _ _ (conn_iff.1 hab)).1, hab⟩, rfl⟩) hw)

theorem capsIn_keptTable (u : N) : capsIn g.keptTable u = g.keptCaps u := by
  unfold capsIn DG.keptTable DG.keptCaps DG.unit?
  rw [List.find?_map]
  have : ((fun p : N × List N => decide (p.1 = u)) ∘ fun x : UnitD N => (x.name, x.caps.filter fun c => g.feedsB c x.name))
      = fun x : UnitD N => decide (x.name = u) := rfl
  rw [this]
  cases h : g.units.find? (fun x => decide (x.name = u)) with
  | none => rfl
  | some x =>
    have : x.name = u := by simpa using List.find?_some h
    simp [this]

theorem mem_keptTable_iff (hn : g.names.Nodup) (hc : g.ConnIn) (ha : g.rgAll.Acyclic) {u c : N} :
    c ∈ capsIn g.keptTable u ↔ g.Feeds c u := by
  rw [capsIn_keptTable]
  unfold DG.keptCaps
  constructor
  · intro h
    split at h
    · exact (feedsB_iff hc ha).1 (by simpa using (List.mem_filter.1 h).2)
    · simp at h
  · intro h
    obtain ⟨x, hx, rfl, hcx⟩ := declares_iff.1 h.declares
    rw [unit?_of_mem hn hx]
    exact List.mem_filter.2 ⟨hcx, (feedsB_iff hc ha).2 h⟩

section Table
variable {t : List (N × List N)} (ht : ∀ u c, c ∈ capsIn t u ↔ g.Feeds c u)
include ht

theorem keptConnT_iff {a b : N} : g.keptConnT t a b = true ↔ g.KeptConn a b := by
  unfold DG.keptConnT DG.KeptConn
  simp only [Bool.and_eq_true, List.any_eq_true, decide_eq_true_eq]
  exact and_congr_right fun _ => exists_congr fun c => by rw [ht, ht]

theorem capsIn_nonempty_iff {u : N} : (!(capsIn t u).isEmpty) = true ↔ ∃ c, g.Feeds c u := by
  rw [Bool.not_eq_true', ← Bool.not_eq_true, List.isEmpty_iff, List.eq_nil_iff_forall_not_mem, Classical.not_forall]
  exact exists_congr fun c => by rw [Classical.not_not, ht]

omit ht in
theorem KeptConn.fed_right {a b : N} (h : g.KeptConn a b) : ∃ c, g.Feeds c b := by
  obtain ⟨c, _, hc⟩ := h.2; exact ⟨c, hc⟩

/-- every unit of a walk of kept connections from a fed unit is fed, hence listed, and by acyclicity the walk
repeats none: it fits the fuel -/
theorem liveAux_iff (hc : g.ConnIn) (ha : g.rgAll.Acyclic) {u : N} : g.liveAux t g.names.length u = true ↔ g.Live u := by
  unfold DG.Live
  rw [search_iff (f := g.liveAux t) (ok := fun u => !(capsIn t u).isEmpty) (tgt := g.origOut) (step := g.keptConnT t)
    (next := g.succs) (fun _ => rfl) (fun _ _ => rfl)]
  constructor
  · rintro ⟨r, -, hh, hall, hlast, hw⟩
    exact ⟨(capsIn_nonempty_iff ht).1 (hall u (List.mem_of_mem_head? hh)), r, hh, hlast,
      WalkR.mono (fun a b hab => (keptConnT_iff ht).1 hab.2) hw⟩
  · rintro ⟨hf, r, hh, hlast, hw⟩
    have hfed : ∀ x ∈ r, ∃ c, g.Feeds c x := by
      cases r with
      | nil => cases hh
      | cons a r =>
        cases hh
        intro x hx
        rcases List.mem_cons.1 hx with rfl | hx
        · exact hf
        · exact WalkR.forall_tail (fun _ _ hab => hab.fed_right) r _ hw x hx
    have hnd : r.Nodup := nodup_of_no_closed_walk ha (WalkR.mono (fun a b hab => hab.1) hw)
    refine ⟨r, hnd.length_le_of_subset fun x hx => let ⟨_, hc'⟩ := hfed x hx; hc'.mem_names, hh,
      fun x hx => (capsIn_nonempty_iff ht).2 (hfed x hx), hlast, WalkR.mono (fun a b hab => ?_) hw⟩
    exact ⟨mem_succs.2 ⟨(hc _ _ (conn_iff.1 hab.1)).2, hab.1⟩, (keptConnT_iff ht).2 hab⟩

theorem mem_liveIn_iff (hc : g.ConnIn) (ha : g.rgAll.Acyclic) {u : N} : u ∈ g.liveIn t ↔ g.Live u := by
  unfold DG.liveIn
  rw [List.mem_filter, liveAux_iff ht hc ha]
  exact ⟨fun h => h.2, fun h => ⟨by obtain ⟨c, hc'⟩ := h.1; exact hc'.mem_names, h⟩⟩

end Table

theorem keptConnB_iff (hn : g.names.Nodup) (hc : g.ConnIn) (ha : g.rgAll.Acyclic) {a b : N} :
    g.keptConnB a b = true ↔ g.KeptConn a b :=
  keptConnT_iff (fun _ _ => mem_keptTable_iff hn hc ha)

theorem liveB_iff (hn : g.names.Nodup) (hc : g.ConnIn) (ha : g.rgAll.Acyclic) {u : N} : g.liveB u = true ↔ g.Live u :=
  liveAux_iff (fun _ _ => mem_keptTable_iff hn hc ha) hc ha

theorem mem_liveUnits_iff (hn : g.names.Nodup) (hc : g.ConnIn) (ha : g.rgAll.Acyclic) {u : N} :
    u ∈ g.liveUnits ↔ g.Live u :=
  mem_liveIn_iff (fun _ _ => mem_keptTable_iff hn hc ha) hc ha

end Spec.DG

/-- the connections of `dgOf` always join listed units (`stdName` returns a unit name) -/
theorem dgOf_connIn (fold : N → N) (d : Desc N) : (dgOf fold d).ConnIn := by
  intro a b hab
  rw [dgOf_names]
  simp only [dgOf, connections, List.mem_filterMap] at hab
  obtain ⟨x, -, hm⟩ := hab
  split at hm
  next a0 b0 =>
    split at hm
    next a' b' ha hb =>
      simp only [Option.some.injEq, Prod.mk.injEq] at hm
      obtain ⟨rfl, rfl⟩ := hm
      exact ⟨List.mem_of_find?_eq_some ha, List.mem_of_find?_eq_some hb⟩
    · simp at hm
  · simp at hm

end Loader
end ProcSim
