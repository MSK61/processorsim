import ProcSim.Lemmas.LoaderC10
import ProcSim.Lemmas.Program
import ProcSim.Lemmas.Isa
import ProcSim.Model.Pipeline
import ProcSim.Lemmas.ExceptRel
import ProcSim.Lemmas.Forall2
import Batteries.Data.Char.AsciiCasing
/-!
# Re-casing a non-defining occurrence of a name changes nothing (lemmas for C13)

Every stage of the pipeline is followed on two inputs that differ only in the letter case of name occurrences that
are not the first of their folded form (`RecasedFrom`); the two results agree in the sense of
`Lemmas/ExceptRel.lean`.

Every stage reads names only through look-ups by folded form in a registry of first spellings, and stores a name only
when the look-up fails. `lookupFold_recase` is that step; the loader's loops (`loadCaps`, `addUnits`, `addEdges`),
`createIsa` and the meaning of a written program (`expectedLine`, `expectedFrom`) are each one induction over their
input around it.

Nothing after `_create_graph` reads the raw memory-access lists (`mapAcl` commutes with every stage of `prepare`),
and `makeProcessor` standardises them itself, idempotently. Program texts go through the exact form of the C14 round
trip (`ProgramLemmas.readProgram_render`); re-casing keeps a written program well-formed (`instrOK`) because blanks
and commas are not letters.
-/
namespace ProcSim
namespace Recase
open Loader hiding Forall2
open Spec.Text (Forall2)

section Rel
variable {N : Type}

abbrev SameFold (fold : N → N) (a b : N) : Prop := fold a = fold b

/-- `l'` re-cases the name occurrences `l`, `seen` being the occurrences read before them: every occurrence keeps
its folded form, and an occurrence that is the **first** of its folded form (none in `seen`, none earlier in `l`)
— a *defining* occurrence — is unchanged. -/
def RecasedFrom (fold : N → N) : List N → List N → List N → Prop
  | _, [], [] => True
  | seen, a :: as, b :: bs =>
    fold a = fold b ∧ ((∀ s ∈ seen, fold s ≠ fold a) → a = b) ∧ RecasedFrom fold (seen ++ [a]) as bs
  | _, _, _ => False

instance decRecasedFrom [DecidableEq N] (fold : N → N) :
    ∀ (seen l l' : List N), Decidable (RecasedFrom fold seen l l')
  | _, [], [] => isTrue trivial
  | _, [], _ :: _ => isFalse id
  | _, _ :: _, [] => isFalse id
  | seen, a :: as, b :: bs =>
    match (inferInstance : Decidable (fold a = fold b ∧ ((∀ s ∈ seen, fold s ≠ fold a) → a = b))),
        decRecasedFrom fold (seen ++ [a]) as bs with
    | isTrue h, isTrue h' => isTrue ⟨h.1, h.2, h'⟩
    | isFalse h, _ => isFalse fun x => h ⟨x.1, x.2.1⟩
    | _, isFalse h' => isFalse fun x => h' x.2.2

theorem RecasedFrom.length_eq (fold : N → N) : ∀ {seen l l' : List N}, RecasedFrom fold seen l l' →
    l.length = l'.length
  | _, [], [], _ => rfl
  | _, [], _ :: _, h => h.elim
  | _, _ :: _, [], h => h.elim
  | _, _ :: _, _ :: _, h => congrArg (· + 1) (RecasedFrom.length_eq fold h.2.2)

theorem RecasedFrom.refl (fold : N → N) : ∀ (seen l : List N), RecasedFrom fold seen l l
  | _, [] => trivial
  | seen, a :: l => ⟨rfl, fun _ => rfl, RecasedFrom.refl fold (seen ++ [a]) l⟩

theorem RecasedFrom.append_iff (fold : N → N) : ∀ {seen a a' b b' : List N}, a.length = a'.length →
    (RecasedFrom fold seen (a ++ b) (a' ++ b') ↔ RecasedFrom fold seen a a' ∧ RecasedFrom fold (seen ++ a) b b')
  | seen, [], [], b, b', _ => by simp only [List.nil_append, List.append_nil, RecasedFrom, true_and]
  | _, [], _ :: _, _, _, h => by simp at h
  | _, _ :: _, [], _, _, h => by simp at h
  | seen, x :: a, y :: a', b, b', h => by
    have ih := RecasedFrom.append_iff fold (seen := seen ++ [x]) (a := a) (a' := a') (b := b) (b' := b')
      (Nat.succ.inj h)
    simp only [List.cons_append, RecasedFrom, ih, List.append_assoc, List.nil_append, and_assoc]

theorem RecasedFrom.forall2 (fold : N → N) : ∀ {seen l l' : List N}, RecasedFrom fold seen l l' →
    Forall2 (SameFold fold) l l'
  | _, [], [], _ => trivial
  | _, [], _ :: _, h => h.elim
  | _, _ :: _, [], h => h.elim
  | _, _ :: _, _ :: _, h => ⟨h.1, RecasedFrom.forall2 fold h.2.2⟩

end Rel

section Stage1
variable {N : Type} [DecidableEq N] (fold : N → N)

/-- every spelling of `P` has an entry (up to case) in the registry `reg` -/
def Cover (P reg : List N) : Prop := ∀ s ∈ P, (lookupFold fold reg s).isSome = true

theorem lookupFold_isSome_congr {l : List N} {x y : N} (h : fold x = fold y) :
    (lookupFold fold l x).isSome = (lookupFold fold l y).isSome := by rw [lookupFold_congr fold h]

theorem lookupFold_self_snoc (reg : List N) (c : N) : (lookupFold fold (reg ++ [c]) c).isSome = true := by
  rw [lookupFold_append, lookupFold_singleton, if_pos rfl]
  cases lookupFold fold reg c <;> rfl

theorem stdCap_idem (reg : List N) (c : N) : stdCap fold reg (stdCap fold reg c) = stdCap fold reg c := by
  unfold stdCap
  cases h : lookupFold fold reg c with
  | none => simp [h]
  | some s =>
    have := (lookupFold_some fold h).2
    simp only [Option.getD_some]
    rw [lookupFold_congr fold this, h]
    rfl

variable {fold}

theorem Cover.nil (reg : List N) : Cover fold [] reg := fun _ h => nomatch h

theorem Cover.cons {P reg : List N} {c : N} (hc : (lookupFold fold reg c).isSome = true) (h : Cover fold P reg) :
    Cover fold (c :: P) reg :=
  List.forall_mem_cons.2 ⟨hc, h⟩

theorem Cover.snoc {P reg : List N} {c : N} (h : Cover fold P reg) (hc : (lookupFold fold reg c).isSome = true) :
    Cover fold (P ++ [c]) reg :=
  List.forall_mem_append.2 ⟨h, List.forall_mem_singleton.2 hc⟩

theorem Cover.grow {P reg : List N} (h : Cover fold P reg) (c : N) : Cover fold P (reg ++ [c]) := by
  intro s hs
  rw [lookupFold_append]
  have := h s hs
  cases hl : lookupFold fold reg s with
  | none => rw [hl] at this; cases this
  | some y => rfl

theorem Cover.fold_ne_of_lookup_none {P reg : List N} {c : N} (h : Cover fold P reg)
    (hc : lookupFold fold reg c = none) : ∀ s ∈ P, fold s ≠ fold c := by
  intro s hs he
  have := h s hs
  rw [lookupFold_congr fold he, hc] at this
  cases this

variable (fold)

/-- **the step every stage repeats.** A reference `c` and its re-casing `c'` — equal up to case, and equal unless
`c` has an entry — are looked up in registries that answer alike: both get the same standard spelling, and the
registries that take them in answer alike again. -/
theorem lookupFold_recase {T T' : List N} (h : ∀ x, lookupFold fold T x = lookupFold fold T' x) {c c' : N}
    (hf : fold c = fold c') (hfirst : lookupFold fold T c = none → c = c') :
    stdCap fold T c = stdCap fold T' c' ∧ ∀ x, lookupFold fold (T ++ [c]) x = lookupFold fold (T' ++ [c']) x := by
  have hk : lookupFold fold T' c' = lookupFold fold T c := by rw [← lookupFold_congr fold hf, h]
  constructor
  · unfold stdCap
    rw [hk]
    cases hl : lookupFold fold T c with
    | some s => rfl
    | none => exact congrArg _ (hfirst hl)
  · intro x
    rw [lookupFold_append, lookupFold_append, ← h x, lookupFold_singleton, lookupFold_singleton, ← hf]
    cases hx : lookupFold fold T x with
    | some s => rfl
    | none =>
      by_cases e : fold c = fold x
      · rw [← hfirst (by rw [lookupFold_congr fold e, hx])]
      · rw [if_neg e, if_neg e]

/-- `_load_caps` on a re-cased capability list, `P` being the capability occurrences read before.

The per-unit registries `seen`, `seen'` take in raw spellings and are only asked *whether* they have an entry, so
they need to answer alike only in `isSome`; the global registry `reg` takes in first spellings only and stays the
same list on both sides. `Cover P reg` makes a capability without entry in `reg` a first occurrence, hence unchanged
by the re-casing; `Cover seen reg` gives a capability that `seen` already has its entry in `reg`, which is what
`Cover (P ++ [c]) reg` needs of it. -/
theorem loadCaps_recase : ∀ (cs cs' seen seen' reg P : List N), RecasedFrom fold P cs cs' →
    (∀ x, (lookupFold fold seen x).isSome = (lookupFold fold seen' x).isSome) →
    Cover fold P reg → Cover fold seen reg →
    loadCaps fold cs seen reg = loadCaps fold cs' seen' reg ∧ Cover fold (P ++ cs) (loadCaps fold cs seen reg).2 := by
  intro cs
  induction cs with
  | nil =>
    intro cs' seen seen' reg P h hs hP hS
    cases cs' with
    | nil => exact ⟨rfl, by rw [List.append_nil]; exact hP⟩
    | cons _ _ => exact h.elim
  | cons c cs IH =>
    intro cs' seen seen' reg P h hs hP hS
    cases cs' with
    | nil => exact h.elim
    | cons c' cs' =>
      obtain ⟨hf, hfirst, hrest⟩ := h
      have happ : P ++ c :: cs = (P ++ [c]) ++ cs := by simp
      rw [happ]
      have hseen' := hs c
      rw [lookupFold_isSome_congr fold (l := seen') hf] at hseen'
      rw [loadCaps_cons, loadCaps_cons]
      cases h1 : lookupFold fold seen c with
      | some y =>
        -- a duplicate within the unit, on both sides: skipped
        rw [h1] at hseen'
        obtain ⟨y', hy'⟩ := Option.isSome_iff_exists.1 hseen'.symm
        rw [hy']
        have hy := lookupFold_some fold h1
        have hc : (lookupFold fold reg c).isSome = true := by
          rw [← lookupFold_isSome_congr fold hy.2]; exact hS y hy.1
        exact IH cs' seen seen' reg (P ++ [c]) hrest hs (hP.snoc hc) hS
      | none =>
        rw [h1] at hseen'
        have h1' : lookupFold fold seen' c' = none :=
          Option.not_isSome_iff_eq_none.1 (hseen' ▸ Bool.false_ne_true)
        rw [h1']
        have hs' : ∀ x, (lookupFold fold (c :: seen) x).isSome = (lookupFold fold (c' :: seen') x).isSome := by
          intro x
          rw [lookupFold_cons, lookupFold_cons, ← hf]
          by_cases hx : fold c = fold x
          · simp [hx]
          · simp [hx, hs x]
        rw [← lookupFold_congr fold hf]
        cases h2 : lookupFold fold reg c with
        | some s =>
          -- known to the registry: both sides take its spelling `s`
          have hc : (lookupFold fold reg c).isSome = true := by rw [h2]; rfl
          have ih := IH cs' (c :: seen) (c' :: seen') reg (P ++ [c]) hrest hs' (hP.snoc hc)
            (hS.cons hc)
          exact ⟨by simp only [ih.1], ih.2⟩
        | none =>
          -- new to the registry, so a first occurrence: `c' = c`, and both sides append it
          have hcc : c = c' := hfirst (hP.fold_ne_of_lookup_none h2)
          subst hcc
          have hc := lookupFold_self_snoc fold reg c
          have ih := IH cs' (c :: seen) (c :: seen') (reg ++ [c]) (P ++ [c]) hrest hs'
            ((hP.grow c).snoc hc) ((hS.grow c).cons hc)
          exact ⟨by simp only [ih.1], ih.2⟩

/-- unit lists related as in a re-cased description: same names, widths, locks; capability lists re-cased relative
to all earlier capability occurrences `P`; memory-access lists pointwise related by `A` -/
def UnitsRel (A : N → N → Prop) : List N → List (UnitD N) → List (UnitD N) → Prop
  | _, [], [] => True
  | P, u :: us, v :: vs =>
    u.name = v.name ∧ u.width = v.width ∧ u.rd = v.rd ∧ u.wr = v.wr ∧ RecasedFrom fold P u.caps v.caps ∧
      Forall2 A u.acl v.acl ∧ UnitsRel A (P ++ u.caps) us vs
  | _, _, _ => False

/-- graph nodes that differ at most in their raw memory-access lists -/
def NodeRel (A : N → N → Prop) (n n' : GNode N) : Prop :=
  n.name = n'.name ∧ n.width = n'.width ∧ n.caps = n'.caps ∧ n.rd = n'.rd ∧ n.wr = n'.wr ∧ Forall2 A n.acl n'.acl

theorem addUnits_recase (A : N → N → Prop) : ∀ (us us' : List (UnitD N)) (names reg P : List N),
    UnitsRel fold A P us us' → Cover fold P reg →
    ExRel2 Eq
      (fun r r' => r.2 = r'.2 ∧ Cover fold (P ++ us.flatMap (·.caps)) r.2 ∧ Forall2 (NodeRel A) r.1 r'.1)
      (addUnits fold us names reg) (addUnits fold us' names reg) := by
  intro us
  induction us with
  | nil =>
    intro us' names reg P h hP
    cases us' with
    | nil => exact ⟨rfl, by simpa using hP, trivial⟩
    | cons _ _ => exact h.elim
  | cons u us IH =>
    intro us' names reg P h hP
    cases us' with
    | nil => exact h.elim
    | cons v vs =>
      obtain ⟨hn, hw, hrd, hwr, hcaps, hacl, hrest⟩ := h
      simp only [addUnits, ← hn, ← hw]
      cases lookupFold fold names u.name with
      | some old => exact rfl
      | none =>
        simp only
        by_cases hwd : u.width ≤ 0
        · simp only [hwd, ↓reduceIte]
          exact rfl
        · simp only [hwd, ↓reduceIte]
          obtain ⟨hl, hcov⟩ := loadCaps_recase fold u.caps v.caps [] [] reg P hcaps (fun _ => rfl) hP
            (Cover.nil reg)
          rw [← hl]
          refine (IH vs (names ++ [u.name]) (loadCaps fold u.caps [] reg).2 (P ++ u.caps) hrest
            hcov).cases (fun _ _ h => h) (fun r r' ih => ⟨ih.1, ?_, ⟨rfl, rfl, rfl, hrd, hwr, hacl⟩, ih.2.2⟩)
          simpa [List.flatMap_cons] using ih.2.1

end Stage1

section Stage2
variable {N : Type}

/-- apply `f` to every name an error carries -/
def mapErr (f : N → N) : LoadError N → LoadError N
  | .dupElem o n => .dupElem (f o) (f n)
  | .badWidth u w => .badWidth (f u) w
  | .badEdge e => .badEdge (e.map f)
  | .undefElem x => .undefElem (f x)
  | .cyclic => .cyclic
  | .deadInput p => .deadInput (f p)
  | .emptyProc => .emptyProc
  | .pathLock s t c => .pathLock (f s) t (f c)
  | .blockedCap c p => .blockedCap (f c) (f p)

theorem cls_mapErr (f : N → N) (e : LoadError N) : (mapErr f e).cls = e.cls := by cases e <;> rfl

/-- the same exception class, the names it carries equal up to case -/
def ErrSame (fold : N → N) (e e' : LoadError N) : Prop := mapErr fold e = mapErr fold e'

theorem ErrSame.refl (fold : N → N) (e : LoadError N) : ErrSame fold e e := rfl

theorem ErrSame.cls_eq {fold : N → N} {e e' : LoadError N} (h : ErrSame fold e e') : e.cls = e'.cls := by
  rw [← cls_mapErr fold e, ← cls_mapErr fold e', h]

variable [DecidableEq N] (fold : N → N)

theorem addEdges_recase (names : List N) : ∀ (es es' : List (List N)) (acc : List (N × N)),
    Forall2 (Forall2 (SameFold fold)) es es' →
    ExRel (ErrSame fold) (addEdges fold names es acc) (addEdges fold names es' acc) := by
  intro es
  induction es with
  | nil =>
    intro es' acc h
    cases es' with
    | nil => exact rfl
    | cons _ _ => exact h.elim
  | cons e es IH =>
    intro es' acc h
    cases es' with
    | nil => exact h.elim
    | cons e' es' =>
      obtain ⟨he, hrest⟩ := h
      have hmap : e.map fold = e'.map fold := he.map_eq (fun _ _ h => h)
      have bad : ExRel (ErrSame fold) (Except.error (.badEdge e) : Except _ (List (N × N))) (.error (.badEdge e')) := by
        show mapErr fold _ = mapErr fold _
        simp only [mapErr, hmap]
      rcases e with _ | ⟨a, _ | ⟨b, _ | ⟨c, e⟩⟩⟩
      · cases he.nil_left
        exact bad
      · obtain ⟨a', _, rfl, -, h⟩ := he.cons_left
        cases h.nil_left
        exact bad
      · obtain ⟨a', _, rfl, ha, h⟩ := he.cons_left
        obtain ⟨b', _, rfl, hb, h⟩ := h.cons_left
        cases h.nil_left
        simp only [addEdges]
        rw [← lookupFold_congr fold ha, ← lookupFold_congr fold hb]
        cases lookupFold fold names a with
        | none => show mapErr fold _ = mapErr fold _; simp only [mapErr, ha]
        | some x =>
          cases lookupFold fold names b with
          | none => show mapErr fold _ = mapErr fold _; simp only [mapErr, hb]
          | some y => exact IH es' _ hrest
      · obtain ⟨a', _, rfl, -, h⟩ := he.cons_left
        obtain ⟨b', _, rfl, -, h⟩ := h.cons_left
        obtain ⟨c', _, rfl, -, -⟩ := h.cons_left
        exact bad

end Stage2

section MapAcl
attribute [local implicit_reducible] ProcSim.AMap
variable {N : Type} [DecidableEq N]
set_option linter.unusedSectionVars false

def mapAclN (f : List N → List N) (n : GNode N) : GNode N := { n with acl := f n.acl }

def mapAcl (f : List N → List N) (g : Graph N) : Graph N := ⟨g.nodes.map (mapAclN f), g.edges⟩

variable (f : List N → List N) (g : Graph N)

@[simp] theorem mapAcl_edges : (mapAcl f g).edges = g.edges := rfl
theorem mapAcl_mk (ns : List (GNode N)) (es : List (N × N)) :
    (⟨ns.map (mapAclN f), es⟩ : Graph N) = mapAcl f ⟨ns, es⟩ := rfl
@[simp] theorem mapAclN_name (n : GNode N) : (mapAclN f n).name = n.name := rfl
@[simp] theorem mapAclN_caps (n : GNode N) : (mapAclN f n).caps = n.caps := rfl
@[simp] theorem mapAclN_rd (n : GNode N) : (mapAclN f n).rd = n.rd := rfl
@[simp] theorem mapAclN_wr (n : GNode N) : (mapAclN f n).wr = n.wr := rfl
@[simp] theorem mapAclN_width (n : GNode N) : (mapAclN f n).width = n.width := rfl

@[simp] theorem mapAcl_names : (mapAcl f g).names = g.names := by
  simp only [Graph.names, mapAcl, List.map_map]
  rfl

@[simp] theorem mapAcl_length : (mapAcl f g).nodes.length = g.nodes.length := by simp [mapAcl]
@[simp] theorem mapAcl_preds (u : N) : (mapAcl f g).preds u = g.preds u := rfl
@[simp] theorem mapAcl_succs (u : N) : (mapAcl f g).succs u = g.succs u := rfl
@[simp] theorem mapAcl_inPorts : (mapAcl f g).inPorts = g.inPorts := by simp [Graph.inPorts]
@[simp] theorem mapAcl_outPorts : (mapAcl f g).outPorts = g.outPorts := by simp [Graph.outPorts]

theorem mapAcl_node? (u : N) : (mapAcl f g).node? u = (g.node? u).map (mapAclN f) := by
  simp only [Graph.node?, mapAcl, List.find?_map]
  rfl

@[simp] theorem mapAcl_capsOf (u : N) : (mapAcl f g).capsOf u = g.capsOf u := by
  simp only [Graph.capsOf, mapAcl_node?]
  cases g.node? u <;> rfl

@[simp] theorem mapAcl_topoOrder : topoOrder (mapAcl f g) = topoOrder g := by simp [topoOrder]
@[simp] theorem mapAcl_isAcyclic : isAcyclic (mapAcl f g) = isAcyclic g := by simp [isAcyclic]

theorem mapAcl_setCaps (u : N) (cs : List N) : (mapAcl f g).setCaps u cs = mapAcl f (g.setCaps u cs) := by
  simp only [Graph.setCaps, mapAcl, List.map_map]
  congr 1
  apply List.map_congr_left
  intro n _
  simp only [Function.comp, mapAclN_name]
  by_cases h : n.name = u <;> simp [h, mapAclN]

theorem mapAcl_removeNodes (dead : List N) : (mapAcl f g).removeNodes dead = mapAcl f (g.removeNodes dead) := by
  simp only [Graph.removeNodes, mapAcl, List.filter_map]
  rfl

theorem mapAcl_cleanUnit (u : N) : cleanUnit (mapAcl f g) u = mapAcl f (cleanUnit g u) := by
  unfold cleanUnit
  simp only [mapAcl_preds, mapAcl_capsOf, mapAcl_edges, mapAcl_setCaps]
  split <;> rfl

theorem mapAcl_foldl_cleanUnit (l : List N) : ∀ g : Graph N,
    l.foldl cleanUnit (mapAcl f g) = mapAcl f (l.foldl cleanUnit g) := by
  induction l with
  | nil => intro g; rfl
  | cons u l ih => intro g; simp only [List.foldl_cons, mapAcl_cleanUnit, ih]

theorem mapAcl_cleanStruct : cleanStruct (mapAcl f g) = mapAcl f (cleanStruct g) := by
  simp only [cleanStruct, mapAcl_topoOrder, mapAcl_foldl_cleanUnit]

theorem mapAcl_rmEmpty : rmEmpty (mapAcl f g) = mapAcl f (rmEmpty g) := by
  unfold rmEmpty
  rw [mapAcl_removeNodes]
  congr 2
  simp only [mapAcl, List.filter_map, List.map_map]
  rfl

theorem mapAcl_chkTerminals (in0 out0 : List N) : ∀ (fuel : Nat) (g : Graph N),
    chkTerminals in0 out0 fuel (mapAcl f g) = (chkTerminals in0 out0 fuel g).map (mapAcl f)
  | 0, g => rfl
  | fuel + 1, g => by
    simp only [chkTerminals, mapAcl_outPorts, mapAcl_removeNodes]
    split
    · rfl
    · split
      · rfl
      · exact mapAcl_chkTerminals in0 out0 fuel _

@[simp] theorem mapAcl_capUnits : capUnits (mapAcl f g) = capUnits g := by simp [capUnits]

@[simp] theorem mapAcl_capSuccs (cap u : N) : capSuccs (mapAcl f g) cap u = capSuccs g cap u := by simp [capSuccs]

@[simp] theorem mapAcl_chkPathLocks (cap : N) (locks : Locks N) (u : N) :
    chkPathLocks (mapAcl f g) cap locks u = chkPathLocks g cap locks u := by
  unfold chkPathLocks
  simp only [mapAcl_capSuccs, mapAcl_node?]
  cases g.node? u <;> rfl

@[simp] theorem mapAcl_lockPass (cap : N) : ∀ (us : List N) (l : Locks N),
    lockPass (mapAcl f g) cap us l = lockPass g cap us l
  | [], _ => rfl
  | u :: us, l => by
    simp only [lockPass, mapAcl_chkPathLocks]
    split
    · rfl
    · exact mapAcl_lockPass cap us _

@[simp] theorem mapAcl_reachPass (cap : N) (outs : List N) : ∀ (us acc : List N),
    reachPass (mapAcl f g) cap outs us acc = reachPass g cap outs us acc
  | [], _ => rfl
  | u :: us, acc => by
    simp only [reachPass, mapAcl_capSuccs, mapAcl_reachPass cap outs us]

@[simp] theorem mapAcl_chkCapList (post outs : List N) (multi : Bool) : ∀ (l : List (N × List N)),
    chkCapList (mapAcl f g) post outs multi l = chkCapList g post outs multi l
  | [] => rfl
  | (cap, ports) :: rest => by
    simp only [chkCapList, mapAcl_capsOf, mapAcl_lockPass, mapAcl_reachPass, mapAcl_chkCapList post outs multi rest]

@[simp] theorem mapAcl_chkCaps : chkCaps (mapAcl f g) = chkCaps g := by simp [chkCaps]

theorem mapAcl_prepare : prepare (mapAcl f g) = (prepare g).map (mapAcl f) := by
  unfold prepare
  simp only [mapAcl_isAcyclic, mapAcl_inPorts, mapAcl_outPorts, mapAcl_cleanStruct, mapAcl_rmEmpty, mapAcl_length,
    mapAcl_chkTerminals]
  split
  · rfl
  · cases chkTerminals g.inPorts g.outPorts ((rmEmpty (cleanStruct g)).nodes.length + 1) (rmEmpty (cleanStruct g)) with
    | error e => rfl
    | ok g2 =>
      simp only [Except.map, mapAcl_names, mapAcl_chkCaps]
      split
      · rfl
      · cases chkCaps g2 <;> rfl

theorem filter_map_mapAclN {β : Type} (f : List N → List N) (p : GNode N → Bool) (h : GNode N → β)
    (hp : ∀ n, p (mapAclN f n) = p n) (hh : ∀ n, h (mapAclN f n) = h n) (l : List (GNode N)) :
    ((l.map (mapAclN f)).filter p).map h = (l.filter p).map h := by
  induction l with
  | nil => rfl
  | cons a l ih =>
    simp only [List.map_cons, List.filter_cons, hp]
    split <;> simp [hh, ih]

theorem mapAclN_eq_of_nodeRel {A : N → N → Prop} {S : N → N} (hS : ∀ c c', A c c' → S c = S c') {n n' : GNode N}
    (h : NodeRel A n n') : mapAclN (List.map S) n = mapAclN (List.map S) n' := by
  obtain ⟨h1, h2, h3, h4, h5, h6⟩ := h
  cases n; cases n'
  simp only at h1 h2 h3 h4 h5 h6
  subst h1 h2 h3 h4 h5
  simp only [mapAclN, GNode.mk.injEq, true_and]
  exact h6.map_eq hS

end MapAcl

section Load
variable {N : Type} [DecidableEq N] [LT N] [DecidableRel (α := N) (· < ·)] (fold : N → N)

theorem mkModel_mapAclN (reg : List N) (n : GNode N) :
    mkModel fold reg (mapAclN (List.map (stdCap fold reg)) n) = mkModel fold reg n := by
  simp only [mkModel, mapAclN, List.map_map]
  congr 3
  funext c
  exact stdCap_idem fold reg c

theorem makeProcessor_mapAcl (reg : List N) (g : Graph N) :
    makeProcessor fold reg (mapAcl (List.map (stdCap fold reg)) g) = makeProcessor fold reg g := by
  unfold makeProcessor
  simp only [mapAcl_preds, mapAcl_succs]
  congr 1
  all_goals
    exact filter_map_mapAclN _ _ _ (fun _ => rfl) (fun n => by simp only [mkModel_mapAclN, mapAclN_name]) _

/-- everything `load_proc_desc` does after `_create_graph` -/
def finish (reg : List N) (g : Graph N) : Except (LoadError N) (Proc N) :=
  match prepare g with
  | .error e => .error e
  | .ok g2 =>
    match makeProcessor fold reg g2 with
    | some p => .ok p
    | none => .error .cyclic

theorem load_eq_finish (d : Desc N) :
    load fold d =
      match addUnits fold d.units [] [] with
      | .error e => .error e
      | .ok r =>
        match addEdges fold (r.1.map (·.name)) d.edges [] with
        | .error e => .error e
        | .ok es => finish fold r.2 ⟨r.1, es⟩ := by
  unfold load createGraph finish
  cases addUnits fold d.units [] [] with
  | error e => rfl
  | ok r =>
    simp only
    cases addEdges fold (r.1.map (·.name)) d.edges [] <;> rfl

theorem finish_mapAcl (reg : List N) (g : Graph N) :
    finish fold reg (mapAcl (List.map (stdCap fold reg)) g) = finish fold reg g := by
  unfold finish
  rw [mapAcl_prepare]
  cases prepare g with
  | error e => rfl
  | ok g2 => simp only [Except.map, makeProcessor_mapAcl]

theorem load_recase_core (A : N → N → Prop) {d d' : Desc N}
    (hu : UnitsRel fold A [] d.units d'.units)
    (hA : ∀ c c', A c c' → fold c = fold c' ∧ ((∀ x ∈ d.units.flatMap (·.caps), fold x ≠ fold c) → c = c'))
    (he : Forall2 (Forall2 (SameFold fold)) d.edges d'.edges) :
    ExRel (ErrSame fold) (load fold d) (load fold d') := by
  rw [load_eq_finish, load_eq_finish]
  refine (addUnits_recase fold A d.units d'.units [] [] [] hu (Cover.nil [])).cases
    (fun e _ h => h ▸ ErrSame.refl fold e) (fun r r' ⟨hreg, hcov, hnodes⟩ => ?_)
  simp only [List.nil_append] at hcov
  have hnames : r.1.map (·.name) = r'.1.map (·.name) := hnodes.map_eq (fun _ _ h => h.1)
  simp only [← hnames, ← hreg]
  have h2 := addEdges_recase fold (r.1.map (·.name)) d.edges d'.edges [] he
  refine h2.cases (fun _ _ h => h) (fun es => ?_)
  have hS : ∀ c c', A c c' → stdCap fold r.2 c = stdCap fold r.2 c' := fun c c' h =>
    (lookupFold_recase fold (fun _ => rfl) (hA c c' h).1 (fun hn => (hA c c' h).2 (hcov.fold_ne_of_lookup_none hn))).1
  have hg : mapAcl (List.map (stdCap fold r.2)) ⟨r.1, es⟩ = mapAcl (List.map (stdCap fold r.2)) ⟨r'.1, es⟩ := by
    simp only [mapAcl]
    congr 1
    exact hnodes.map_eq (fun _ _ h => mapAclN_eq_of_nodeRel hS h)
  show ExRel (ErrSame fold) (finish fold r.2 ⟨r.1, es⟩) (finish fold r.2 ⟨r'.1, es⟩)
  rw [← finish_mapAcl fold r.2 ⟨r.1, es⟩, hg, finish_mapAcl]
  exact ExRel.refl (ErrSame.refl fold) _

end Load

theorem unitsRel_of_flat {N : Type} (fold : N → N) (A : N → N → Prop) : ∀ (P : List N) (us us' : List (UnitD N)),
    Forall2 (fun u u' => u.name = u'.name ∧ u.width = u'.width ∧ u.rd = u'.rd ∧ u.wr = u'.wr ∧
      u.caps.length = u'.caps.length ∧ Forall2 A u.acl u'.acl) us us' →
    RecasedFrom fold P (us.flatMap (·.caps)) (us'.flatMap (·.caps)) → UnitsRel fold A P us us'
  | _, [], [], _, _ => trivial
  | _, [], _ :: _, h, _ => h.elim
  | _, _ :: _, [], h, _ => h.elim
  | P, u :: us, v :: vs, h, hc => by
    obtain ⟨⟨h1, h2, h3, h4, h5, h6⟩, hrest⟩ := h
    simp only [List.flatMap_cons] at hc
    rw [RecasedFrom.append_iff fold h5] at hc
    exact ⟨h1, h2, h3, h4, hc.1, h6, unitsRel_of_flat fold A (P ++ u.caps) us vs hrest hc.2⟩

section IsaS
attribute [local implicit_reducible] ProcSim.AMap
open ICase (lower upper)
open Isa (Str IsaError CompileError createIsa loadIsa compileProgram)

/-- the same error of `load_isa`, the texts it carries equal up to case -/
def IsaErrSame : IsaError → IsaError → Prop
  | .dupInstr o n, .dupInstr o' n' => lower o = lower o' ∧ lower n = lower n'
  | .undefCap c, .undefCap c' => lower c = lower c'
  | _, _ => False

abbrev IsaEntrySame (e e' : Str × Str) : Prop := lower e.1 = lower e'.1 ∧ lower e.2 = lower e'.2

def OptSame : Option Str → Option Str → Prop
  | some a, some b => lower a = lower b
  | none, none => True
  | _, _ => False

theorem createIsa_recase (capReg : Isa.Registry) : ∀ (l l' : List (Str × Str)) (ir ir' acc : AMap Str Str),
    Forall2 IsaEntrySame l l' → (∀ k, OptSame (AMap.get? ir k) (AMap.get? ir' k)) →
    ExRel IsaErrSame (createIsa capReg ir acc l) (createIsa capReg ir' acc l')
  | [], [], _, _, _, _, _ => rfl
  | [], _ :: _, _, _, _, h, _ => h.elim
  | _ :: _, [], _, _, _, h, _ => h.elim
  | (i, c) :: l, (i', c') :: l', ir, ir', acc, h, hr => by
    obtain ⟨⟨hi, hc⟩, hrest⟩ := h
    simp only at hi hc
    have hu : upper i = upper i' := IsaLemmas.upper_eq_iff_lower_eq.2 hi
    simp only [createIsa, ← hi, ← hc, ← hu]
    have hk := hr (lower i)
    revert hk
    cases AMap.get? ir (lower i) with
    | some o =>
      cases AMap.get? ir' (lower i) with
      | some o' => intro hk; exact ⟨hk, hi⟩
      | none => exact False.elim
    | none =>
      cases AMap.get? ir' (lower i) with
      | some o' => exact False.elim
      | none =>
        intro _
        simp only
        cases AMap.get? capReg (lower c) with
        | none => exact hc
        | some std =>
          refine createIsa_recase capReg l l' _ _ _ hrest ?_
          intro k
          rw [AMap.get?_set, AMap.get?_set]
          split
          · exact hi
          · exact hr k

end IsaS

section Prog
attribute [local implicit_reducible] ProcSim.AMap
open ICase (lower upper)
open Program Spec.Text ProgramLemmas
open Isa (CompileError compileProgram)

def SeenEq (seen seen' : List (List Char)) : Prop := ∀ x, lookupFold lower seen x = lookupFold lower seen' x

theorem firstSpelling_eq (seen : List (List Char)) (o : List Char) : firstSpelling seen o = stdCap lower seen o := by
  unfold firstSpelling stdCap lookupFold
  simp only [Bool.beq_eq_decide_eq]
  cases seen.find? _ <;> rfl

theorem seen_step {seen seen' : List (List Char)} {o o' : List Char} (h : SeenEq seen seen')
    (hf : lower o = lower o') (hfirst : (∀ s ∈ seen, lower s ≠ lower o) → o = o') :
    firstSpelling seen o = firstSpelling seen' o' ∧ SeenEq (seen ++ [o]) (seen' ++ [o']) := by
  rw [firstSpelling_eq, firstSpelling_eq]
  exact lookupFold_recase lower h hf (fun hn => hfirst ((lookupFold_eq_none lower).1 hn))

theorem stdOps_recase : ∀ (os os' seen seen' : List (List Char)), RecasedFrom lower seen os os' → SeenEq seen seen' →
    stdOps seen os = stdOps seen' os' ∧ SeenEq (seen ++ os) (seen' ++ os')
  | [], [], seen, seen', _, h => ⟨rfl, by simpa using h⟩
  | [], _ :: _, _, _, h, _ => h.elim
  | _ :: _, [], _, _, h, _ => h.elim
  | o :: os, o' :: os', seen, seen', h, hs => by
    obtain ⟨hf, hfirst, hrest⟩ := h
    obtain ⟨h1, h2⟩ := seen_step hs hf hfirst
    obtain ⟨h3, h4⟩ := stdOps_recase os os' (seen ++ [o]) (seen' ++ [o']) hrest h2
    refine ⟨by simp only [stdOps, h1, h3], ?_⟩
    simpa using h4

theorem isEmpty_of_lower_eq {o o' : List Char} (h : lower o = lower o') : o.isEmpty = o'.isEmpty := by
  have := congrArg List.length h
  simp only [lower, List.length_map] at this
  cases o <;> cases o' <;> simp_all

theorem firstEmpty_recase : ∀ (os os' : List (List Char)) (k : Nat), Forall2 (SameFold lower) os os' →
    firstEmpty k os = firstEmpty k os'
  | [], [], _, _ => rfl
  | [], _ :: _, _, h => h.elim
  | _ :: _, [], _, h => h.elim
  | o :: os, o' :: os', k, h => by
    simp only [firstEmpty, isEmpty_of_lower_eq h.1, firstEmpty_recase os os' (k + 1) h.2]

/-- written instruction lists related as in a re-cased program: mnemonics equal up to case; operand lists re-cased
relative to all earlier operand occurrences `seen` -/
def ProgRel : List (List Char) → List SrcInstr → List SrcInstr → Prop
  | _, [], [] => True
  | seen, i :: is, j :: js =>
    lower i.name = lower j.name ∧ RecasedFrom lower seen i.ops j.ops ∧ ProgRel (seen ++ i.ops) is js
  | _, _, _ => False

theorem progRel_of_flat : ∀ (P : List (List Char)) (is js : List SrcInstr),
    Forall2 (fun i j => lower i.name = lower j.name ∧ i.ops.length = j.ops.length) is js →
    RecasedFrom lower P (is.flatMap (·.ops)) (js.flatMap (·.ops)) → ProgRel P is js
  | _, [], [], _, _ => trivial
  | _, [], _ :: _, h, _ => h.elim
  | _, _ :: _, [], h, _ => h.elim
  | P, i :: is, j :: js, h, hc => by
    obtain ⟨⟨h1, h2⟩, hrest⟩ := h
    simp only [List.flatMap_cons] at hc
    rw [RecasedFrom.append_iff lower h2] at hc
    exact ⟨h1, hc.1, progRel_of_flat (P ++ i.ops) is js hrest hc.2⟩

def WrittenSame (w w' : Written) : Prop :=
  lower w.name = lower w'.name ∧ w.dst = w'.dst ∧ w.srcs = w'.srcs ∧ w.line = w'.line

def ParseErrSame : ParseError → ParseError → Prop
  | .noOperands l i, .noOperands l' i' => l = l' ∧ lower i = lower i'
  | .emptyOperand l i k, .emptyOperand l' i' k' => l = l' ∧ lower i = lower i' ∧ k = k'
  | _, _ => False

/-- whether an operand list is `[]` or `[[]]` can be read off which of its operands are empty -/
theorem ops_nil_or_single_recase {a b : List (List Char)} (h : Forall2 (SameFold lower) a b) :
    (a = [] ∨ a = [[]]) ↔ (b = [] ∨ b = [[]]) := by
  have key : ∀ l : List (List Char),
      (l = [] ∨ l = [[]]) ↔ (l.map List.isEmpty = [] ∨ l.map List.isEmpty = [true]) := by
    intro l
    rcases l with _ | ⟨o, _ | ⟨o', l⟩⟩ <;> simp [List.isEmpty_iff]
  rw [key, key, h.map_eq (fun _ _ h => isEmpty_of_lower_eq h)]

theorem expectedLine_recase {i j : SrcInstr} {seen seen' : List (List Char)} (ln : Nat)
    (hname : lower i.name = lower j.name) (hops : RecasedFrom lower seen i.ops j.ops) (hs : SeenEq seen seen') :
    ExRel2 ParseErrSame WrittenSame (expectedLine seen ln i) (expectedLine seen' ln j) := by
  have hfa := RecasedFrom.forall2 lower hops
  by_cases hno : i.ops = [] ∨ i.ops = [[]]
  · rw [expectedLine_noOps seen ln i hno, expectedLine_noOps seen' ln j ((ops_nil_or_single_recase hfa).1 hno)]
    exact ⟨rfl, hname⟩
  · have hno' : ¬ (j.ops = [] ∨ j.ops = [[]]) := fun h => hno ((ops_nil_or_single_recase hfa).2 h)
    obtain ⟨o, os, hio, hne⟩ := (ops_cases i).resolve_left hno
    obtain ⟨o', os', hjo, hne'⟩ := (ops_cases j).resolve_left hno'
    rw [expectedLine_ops seen ln i o os hio hne, expectedLine_ops seen' ln j o' os' hjo hne']
    rw [hio, hjo] at hops hfa
    rw [firstEmpty_recase _ _ 1 hfa]
    cases firstEmpty 1 (o' :: os') with
    | some k => exact ⟨rfl, hname, rfl⟩
    | none =>
      have hstd := (stdOps_recase _ _ seen seen' hops hs).1
      simp only [stdOps, List.cons.injEq] at hstd
      exact ⟨hname, hstd.1, hstd.2, rfl⟩

theorem expectedFrom_recase : ∀ (is js : List SrcInstr) (ws : List LineWs) (seen seen' : List (List Char)) (n : Nat),
    ProgRel seen is js → SeenEq seen seen' →
    ExRel2 ParseErrSame (Forall2 WrittenSame) (expectedFrom seen n is ws) (expectedFrom seen' n js ws)
  | [], [], ws, _, _, n, _, _ => by
    have h2 : ∀ s, expectedFrom s n [] ws = .ok [] := fun s => by cases ws <;> rfl
    rw [h2, h2]; exact trivial
  | [], _ :: _, _, _, _, _, h, _ => h.elim
  | _ :: _, [], _, _, _, _, h, _ => h.elim
  | i :: is, j :: js, ws, seen, seen', n, h, hs => by
    obtain ⟨hname, hops, hrest⟩ := h
    rw [expectedFrom_cons, expectedFrom_cons]
    refine (expectedLine_recase _ hname hops hs).cases (fun _ _ h => h) (fun w w' hw => ?_)
    exact (expectedFrom_recase is js ws.tail _ _ _ hrest (stdOps_recase _ _ _ _ hops hs).2).cases (fun _ _ h => h)
      (fun _ _ ih => ⟨hw, ih⟩)

def ProgSame (p p' : ProgInstr) : Prop :=
  lower p.name = lower p'.name ∧ p.srcs = p'.srcs ∧ p.dst = p'.dst ∧ p.line = p'.line

theorem forall2_toProg : ∀ {l l' : List Written}, Forall2 WrittenSame l l' →
    Forall2 ProgSame (l.map toProg) (l'.map toProg)
  | [], [], _ => trivial
  | [], _ :: _, h => h.elim
  | _ :: _, [], h => h.elim
  | _ :: _, _ :: _, h => ⟨⟨h.1.1, by simp only [toProg, h.1.2.2.1], h.1.2.1, h.1.2.2.2⟩, forall2_toProg h.2⟩

def CompErrSame (e e' : CompileError) : Prop := lower e.name = lower e'.name ∧ e.line = e'.line

theorem compileProgram_recase (isa : AMap Isa.Str Isa.Str) : ∀ (ps ps' : List ProgInstr), Forall2 ProgSame ps ps' →
    ExRel CompErrSame (compileProgram isa ps) (compileProgram isa ps')
  | [], [], _ => rfl
  | [], _ :: _, h => h.elim
  | _ :: _, [], h => h.elim
  | p :: ps, p' :: ps', h => by
    obtain ⟨⟨hn, hs, hd, hl⟩, hrest⟩ := h
    have hu : upper p.name = upper p'.name := IsaLemmas.upper_eq_iff_lower_eq.2 hn
    simp only [compileProgram, ← hu, ← hs, ← hd]
    cases AMap.get? isa (upper p.name) with
    | none => exact ⟨hn, hl⟩
    | some cap =>
      exact (compileProgram_recase isa ps ps' hrest).cases (fun _ _ h => h) (fun _ => rfl)

end Prog

section Pipe
open ICase (lower)
open Pipeline (Failure Stages front run cliTable)

def FailSame : Failure → Failure → Prop
  | .load e, .load e' => ErrSame lower e e'
  | .isa e, .isa e' => IsaErrSame e e'
  | .parse e, .parse e' => ParseErrSame e e'
  | .compile e, .compile e' => CompErrSame e e'
  | _, _ => False

def StagesSame (s s' : Stages) : Prop :=
  s.proc = s'.proc ∧ s.isa = s'.isa ∧ Forall2 ProgSame s.parsed s'.parsed ∧ s.prog = s'.prog

theorem front_recase {d d' : Desc Pipeline.Str} {isa isa' : List (Pipeline.Str × Pipeline.Str)}
    {t t' : List Pipeline.Str}
    (h1 : ExRel (ErrSame lower) (load lower d) (load lower d'))
    (h2 : ∀ caps, ExRel IsaErrSame (Isa.loadIsa isa caps) (Isa.loadIsa isa' caps))
    (h3 : ExRel2 ParseErrSame (Forall2 ProgSame) (Program.readProgram t) (Program.readProgram t')) :
    ExRel2 FailSame StagesSame (front d isa t) (front d' isa' t') := by
  unfold front
  refine h1.cases (fun _ _ h => h) (fun p => ?_)
  dsimp only
  refine (h2 (Isa.getAbilitiesProc p)).cases (fun _ _ h => h) (fun m => ?_)
  dsimp only
  refine h3.cases (fun _ _ h => h) (fun ps ps' h3 => ?_)
  dsimp only
  exact (compileProgram_recase m ps ps' h3).cases (fun _ _ h => h) (fun _ => ⟨rfl, rfl, h3, rfl⟩)

def RunSame (x y : Stages × Outcome Pipeline.Str) : Prop :=
  StagesSame x.1 y.1 ∧
    match x.2, y.2 with
    | .done a, .done b => a = b
    | .stall a, .stall b => a = b
    | .fault a, .fault b => a = b
    | _, _ => False

theorem run_recase {d d' : Desc Pipeline.Str} {isa isa' : List (Pipeline.Str × Pipeline.Str)}
    {t t' : List Pipeline.Str} (h : ExRel2 FailSame StagesSame (front d isa t) (front d' isa' t')) :
    ExRel2 FailSame RunSame (run d isa t) (run d' isa' t') := by
  unfold run
  refine h.cases (fun _ _ h => h) (fun s s' h => ⟨h, ?_⟩)
  obtain ⟨hp, -, -, hg⟩ := h
  simp only [hp, hg]
  cases simulate s'.proc s'.prog <;> rfl

theorem cliTable_recase {d d' : Desc Pipeline.Str} {isa isa' : List (Pipeline.Str × Pipeline.Str)}
    {t t' : List Pipeline.Str} (h : ExRel2 FailSame RunSame (run d isa t) (run d' isa' t')) :
    cliTable d isa t = cliTable d' isa' t' := by
  unfold cliTable
  refine h.cases (fun _ _ _ => rfl) (fun ⟨st, o⟩ ⟨st', o'⟩ ⟨hs, ho⟩ => ?_)
  have hlen : st.parsed.length = st'.parsed.length := hs.2.2.1.length_eq
  cases o <;> cases o' <;> simp only at ho <;> first | exact False.elim ho | (subst ho; simp only [hlen])

end Pipe

section WellFormed
open ICase (lower)
open Program (isWs)
open Spec.Text (SrcInstr nameOK tokOK instrOK)

theorem toLower_congr (p : Char → Bool) {b : Bool} (hp : ∀ c : Char, c.isAlpha = true → p c = b) (c : Char) :
    p c.toLower = p c := by
  by_cases h : c.isUpper = true
  · have ha : c.isAlpha = true := by rw [Char.isAlpha, h]; rfl
    rw [hp c ha, hp c.toLower (by rw [Char.isAlpha_toLower_eq_isAlpha, ha])]
  · rw [Char.toLower_eq_of_not_isUpper h]

theorem isWs_of_isAlpha (c : Char) (h : c.isAlpha = true) : isWs c = false := by
  have h65 : 65 ≤ c.toNat := by
    simp only [Char.isAlpha, Char.isUpper, Char.isLower, Bool.or_eq_true, Bool.and_eq_true, decide_eq_true_eq] at h
    rcases h with h | h
    · exact UInt32.le_iff_toNat_le.1 h.1
    · exact Nat.le_trans (by decide) (UInt32.le_iff_toNat_le.1 h.1)
  have h13 : ¬ c.toNat ≤ 13 := by omega
  have h32 : ¬ c.toNat ≤ 32 := by omega
  simp only [isWs, h13, h32, decide_false, Bool.and_false, Bool.or_self]

theorem isWs_toLower (c : Char) : isWs c.toLower = isWs c := toLower_congr isWs isWs_of_isAlpha c

theorem all_of_lower_eq (p : Char → Bool) (hp : ∀ c : Char, p c.toLower = p c) : ∀ {t t' : List Char},
    lower t = lower t' → t.all p = t'.all p
  | [], [], _ => rfl
  | [], _ :: _, h => by simp [lower] at h
  | _ :: _, [], h => by simp [lower] at h
  | c :: t, c' :: t', h => by
    simp only [lower, List.map_cons, List.cons.injEq] at h
    simp only [List.all_cons, all_of_lower_eq p hp (t := t) (t' := t') h.2]
    rw [← hp c, ← hp c', h.1]

theorem nameOK_of_lower_eq {t t' : List Char} (h : lower t = lower t') : nameOK t = nameOK t' := by
  unfold nameOK
  rw [isEmpty_of_lower_eq h, all_of_lower_eq (fun c => !isWs c) (fun c => by simp only [isWs_toLower]) h]

theorem bne_comma_toLower (c : Char) : (c.toLower != ',') = (c != ',') :=
  toLower_congr (fun c => c != ',') (b := true) (fun c hc => bne_iff_ne.2 fun e => by
    rw [e] at hc
    exact absurd hc (by decide)) c

theorem tokOK_of_lower_eq {t t' : List Char} (h : lower t = lower t') : tokOK t = tokOK t' := by
  unfold tokOK
  rw [isEmpty_of_lower_eq h, all_of_lower_eq (fun c => !isWs c && c != ',') (fun c => by
    simp only [isWs_toLower, bne_comma_toLower]) h]

theorem instrOK_recase {i j : SrcInstr} (hn : lower i.name = lower j.name)
    (ho : Forall2 (SameFold lower) i.ops j.ops) : instrOK i = instrOK j := by
  unfold instrOK
  rw [nameOK_of_lower_eq hn, ho.all_eq (q := fun o => o.isEmpty || tokOK o)
    (fun a b h => by simp only [isEmpty_of_lower_eq h, tokOK_of_lower_eq h])]

theorem progRel_instrOK : ∀ {P : List (List Char)} {is js : List SrcInstr}, ProgRel P is js →
    (∀ i ∈ is, instrOK i = true) → ∀ j ∈ js, instrOK j = true
  | _, [], [], _, _ => fun _ h => by simp at h
  | _, [], _ :: _, h, _ => h.elim
  | _, _ :: _, [], h, _ => h.elim
  | _, i :: is, j :: js, h, hok => by
    intro x hx
    rcases List.mem_cons.1 hx with rfl | hx
    · rw [← instrOK_recase h.1 (RecasedFrom.forall2 lower h.2.1)]
      exact hok i List.mem_cons_self
    · exact progRel_instrOK h.2.2 (fun i hi => hok i (List.mem_cons_of_mem _ hi)) x hx

end WellFormed

end Recase
end ProcSim
