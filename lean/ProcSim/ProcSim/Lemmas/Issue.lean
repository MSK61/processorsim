import ProcSim.Lemmas.Routes
import ProcSim.Lemmas.Advance
/-!
# Issue phase (`_fill_inputs`): lemmas for C06

The issue loop threads a memory flag and appends to the input ports; the checker sees only the final record of the
cycle. Two facts bridge the gap. The flag is *exact*: it is set iff some instruction has entered (w.r.t. the previous
record) a unit whose ACL names its capability (`MemIff`). And the state "at `i`'s turn" can be read off the final
record: what is hosted at that moment has a program index `< i`, what is appended later an index `≥ i` (`usableP`).
`CycleFacts` says what one cycle does to `entered` and to the input ports; `DiagFacts` lifts it to a diagram with its
`entered` counters. These form a `Run` (`Lemmas/Routes.lean`), through which `positions`, `firstCycle`, `issued`,
`enteredCount` and `issuedBy` are read; `DiagFacts.head_of_issued` adds the port an instruction entered.
-/
namespace ProcSim
open Spec

attribute [local implicit_reducible] AMap

variable {N : Type} [DecidableEq N]

section memFlag
def unitIdx (u : Util N) (n : N) : List Nat := (u.get n).map (·.idx)

/-- some instruction has entered (w.r.t. the record `old`) a unit whose ACL names its capability -/
def memWit (prog : List (Instr N)) (units : List (UnitM N)) (old u : Util N) : Prop :=
  ∃ m ∈ units, ∃ k ∈ unitIdx u m.name, k ∉ unitIdx old m.name ∧ capIn prog k m.acl = true

/-- the same, among the instructions with program index `< j` -/
def memWitLt (prog : List (Instr N)) (units : List (UnitM N)) (old u : Util N) (j : Nat) : Prop :=
  ∃ m ∈ units, ∃ k ∈ (unitIdx u m.name).filter (fun k => decide (k < j)), k ∉ unitIdx old m.name ∧ capIn prog k m.acl = true

/-- the threaded memory flag is exact -/
def MemIff (prog : List (Instr N)) (units : List (UnitM N)) (old u : Util N) (mem : Bool) : Prop :=
  mem = true ↔ memWit prog units old u

/-- "Flag set ⇒ the entry is still there" is `Adv.moveFlights_flag` (it needs
the sink-first order: an instruction moved into a destination is not moved on in the same cycle); conversely every
destination sets the flag when it takes an instruction that needs the port. -/
theorem moveFlights_memIff {p : Proc N} (prog : List (Instr N)) {old : Util N} {e : Nat} (hc : Adv.CycleHyp p e old) :
    MemIff prog p.allUnits old (moveFlights p prog old).1 (moveFlights p prog old).2 := by
  constructor
  · intro hm
    obtain ⟨d, hd, k, hk, hk1, hk2⟩ := Adv.moveFlights_flag hc hm
    exact ⟨d.model, model_mem_allUnits_of_mem_dests hd, k, hk, hk1, hk2⟩
  · rintro ⟨m, hm, k, hk, hk1, hk2⟩
    refine moveFlights_induction p prog (fun u mem => ∀ m ∈ p.allUnits, ∀ k ∈ unitIdx u m.name,
      k ∉ unitIdx old m.name → capIn prog k m.acl = true → mem = true) old ?_ ?_ m hm k hk hk1 hk2
    · intro m _ k hk hnk _
      exact absurd (((flushOutputs_get_sublist p.outBoundary old m.name).map _).subset hk) hnk
    · intro d hd u mem hP m hm k hk hnk hcap
      rw [fillUnit_snd]
      have hsub := ((fillUnit_get_sublist prog d u mem m.name).map HI.idx).subset hk
      by_cases hold' : k ∈ unitIdx u m.name
      · rw [hP m hm k hold' hnk hcap]; rfl
      · by_cases hdm : d.model.name = m.name
        · rw [if_pos hdm, List.map_append, List.mem_append] at hsub
          rcases hsub with hsub | hsub
          · exact absurd hsub hold'
          · rw [List.map_map] at hsub
            obtain ⟨c, hc', rfl⟩ := List.mem_map.1 hsub
            have : d.model = m :=
              unit_eq_of_name_eq (structOK_nodup_names hc.wf) (model_mem_allUnits_of_mem_dests hd) hm hdm
            subst this
            have : (unitTaken prog d u mem).any (fun c => capIn prog c.2 d.model.acl) = true :=
              List.any_eq_true.2 ⟨c, hc', hcap⟩
            rw [this, Bool.or_true]
        · rw [if_neg hdm] at hsub
          exact absurd hsub hold'

end memFlag

section issue

/-- number of instructions with program index `< i` hosted by `n` -/
def cntLt (u : Util N) (n : N) (i : Nat) : Nat := ((unitIdx u n).filter (fun k => decide (k < i))).length

/-- Port `q` was usable for instruction `i` at its turn, read off a record `u` in which later issues (of indices
`≥ i`) may already be present: `q` supports the capability, it is not the case that `q` needs the memory port for it
while an entry of index `< i` holds it, and the instructions of index `< i` do not fill `q`. -/
def usableP (prog : List (Instr N)) (units : List (UnitM N)) (old u : Util N) (i : Nat) (q : UnitM N) : Prop :=
  capIn prog i q.caps = true ∧ ¬ (capIn prog i q.acl = true ∧ memWitLt prog units old u i) ∧ cntLt u q.name i ≠ q.width

theorem usableP_congr {prog : List (Instr N)} {units : List (UnitM N)} {old u u' : Util N} {i : Nat}
    (h : ∀ n, (unitIdx u' n).filter (fun k => decide (k < i)) = (unitIdx u n).filter (fun k => decide (k < i)))
    (q : UnitM N) : usableP prog units old u' i q ↔ usableP prog units old u i q := by
  simp only [usableP, memWitLt, cntLt, h]

theorem unitIdx_issue (u : Util N) (pn n : N) (e : Nat) :
    unitIdx (u.set pn (u.get pn ++ [⟨e, .U⟩])) n = if pn = n then unitIdx u n ++ [e] else unitIdx u n := by
  unfold unitIdx
  rw [Util.get_set]
  split
  · next h => subst h; simp
  · rfl

theorem filter_lt_unitIdx_issue (u : Util N) (pn n : N) {e i : Nat} (hi : i ≤ e) :
    (unitIdx (u.set pn (u.get pn ++ [⟨e, .U⟩])) n).filter (fun k => decide (k < i)) =
      (unitIdx u n).filter (fun k => decide (k < i)) := by
  rw [unitIdx_issue]
  split
  · have : ¬ e < i := by omega
    simp [List.filter_append, this]
  · rfl

theorem mem_unitIdx_issue_self (u : Util N) (pn : N) (e : Nat) :
    e ∈ unitIdx (u.set pn (u.get pn ++ [⟨e, .U⟩])) pn := by
  rw [unitIdx_issue, if_pos rfl]
  exact List.mem_append_right _ (List.mem_singleton_self e)

theorem RowBase.unitIdx_lt {p : Proc N} {e : Nat} {u : Util N} (h : RowBase p e u) {n : N} {k : Nat}
    (hk : k ∈ unitIdx u n) : k < e := by
  obtain ⟨x, hx, rfl⟩ := List.mem_map.1 hk
  exact h.idx_lt n x hx

theorem RowBase.filter_lt_unitIdx {p : Proc N} {e : Nat} {u : Util N} (h : RowBase p e u) (n : N) :
    (unitIdx u n).filter (fun k => decide (k < e)) = unitIdx u n :=
  filter_lt_eq_self fun _ hk => h.unitIdx_lt hk

/-- at the turn of instruction `e` (all hosted indices `< e`, flag exact), `usableP` read off any later record is
`portUsable` of the model -/
theorem usableP_iff_portUsable {prog : List (Instr N)} {units : List (UnitM N)} {old u u' : Util N} {mem : Bool}
    {e : Nat} {ins : Instr N} (hmem : MemIff prog units old u mem) (hins : prog[e]? = some ins)
    (h' : ∀ n, (unitIdx u' n).filter (fun k => decide (k < e)) = unitIdx u n) (q : UnitM N) :
    usableP prog units old u' e q ↔ portUsable ins.cap u mem q := by
  have hcap : ∀ l : List N, capIn prog e l = decide (ins.cap ∈ l) := by intro l; simp [capIn, hins]
  have hw : memWitLt prog units old u' e ↔ mem = true := by
    unfold MemIff at hmem
    rw [hmem]; simp only [memWitLt, memWit, h']
  have hc : cntLt u' q.name e = (u.get q.name).length := by
    unfold cntLt; rw [h']; simp [unitIdx]
  unfold usableP portUsable
  rw [hcap, hcap, hw, hc]
  simp only [decide_eq_true_eq]
  refine and_congr_right fun _ => and_congr_left fun _ => ?_
  rw [Bool.and_eq_false_imp, decide_eq_false_iff_not, not_and']

variable [LT N] [DecidableRel (α := N) (· < ·)]

/-- the facts about the turn of instruction `i`, read off record `u` -/
def TurnFacts (p : Proc N) (prog : List (Instr N)) (old u : Util N) (i : Nat) : Prop :=
  ∃ pre port post, sortedInputs p = pre ++ port :: post ∧ i ∈ unitIdx u port.name ∧
    usableP prog p.allUnits old u i port ∧ ∀ q ∈ pre, ¬ usableP prog p.allUnits old u i q

theorem TurnFacts.congr {p : Proc N} {prog : List (Instr N)} {old u u' : Util N} {i : Nat}
    (h : ∀ n, (unitIdx u' n).filter (fun k => decide (k < i)) = (unitIdx u n).filter (fun k => decide (k < i)))
    (hmem : ∀ n, i ∈ unitIdx u n → i ∈ unitIdx u' n)
    (ht : TurnFacts p prog old u i) : TurnFacts p prog old u' i := by
  obtain ⟨pre, port, post, hs, hi, hu, hpre⟩ := ht
  exact ⟨pre, port, post, hs, hmem _ hi, (usableP_congr h port).2 hu,
    fun q hq hq' => hpre q hq ((usableP_congr h q).1 hq')⟩

structure IssInv (p : Proc N) (prog : List (Instr N)) (old : Util N) (e0 : Nat) (u : Util N) (mem : Bool) (e : Nat) :
    Prop where
  ge : e0 ≤ e
  base : RowBase p e u
  memIff : MemIff prog p.allUnits old u mem
  turns : ∀ i, e0 ≤ i → i < e → TurnFacts p prog old u i

theorem IssInv.init {p : Proc N} {prog : List (Instr N)} {old : Util N} {e0 : Nat} (hc : Adv.CycleHyp p e0 old) :
    IssInv p prog old e0 (moveFlights p prog old).1 (moveFlights p prog old).2 e0 := by
  refine ⟨Nat.le_refl _, ?_, moveFlights_memIff prog hc, fun i h1 h2 => by omega⟩
  exact moveFlights_induction p prog (fun u _ => RowBase p e0 u) old (hc.base.after_flush _)
    (fun d hd u mem hu => hu.after_fillUnit (structOK_nodup_names hc.wf) prog hd mem)

theorem IssInv.step {p : Proc N} {prog : List (Instr N)} {old : Util N} {e0 : Nat}
    (hn : (p.allUnits.map (·.name)).Nodup) (hb : RowBase p e0 old)
    {u : Util N} {mem : Bool} {e : Nat} {ins : Instr N} {pre post : List (UnitM N)} {port : UnitM N}
    (h : IssInv p prog old e0 u mem e) (hins : prog[e]? = some ins) (hs : sortedInputs p = pre ++ port :: post)
    (hu : portUsable ins.cap u mem port) (hpre : ∀ q ∈ pre, ¬ portUsable ins.cap u mem q) :
    IssInv p prog old e0 (u.set port.name (u.get port.name ++ [⟨e, .U⟩])) (mem || decide (ins.cap ∈ port.acl))
      (e + 1) := by
  have hport : port ∈ p.allUnits :=
    mem_allUnits_of_mem_inBoundary (mem_sortedInputs.1 (by rw [hs]; simp))
  have hfresh_old : ∀ n, e ∉ unitIdx old n := fun n hm =>
    Nat.lt_irrefl e (Nat.lt_of_lt_of_le (hb.unitIdx_lt hm) h.ge)
  have hcap : capIn prog e port.acl = decide (ins.cap ∈ port.acl) := by simp [capIn, hins]
  have hturn : ∀ n, (unitIdx (u.set port.name (u.get port.name ++ [⟨e, .U⟩])) n).filter (fun k => decide (k < e)) =
      unitIdx u n := by
    intro n
    rw [filter_lt_unitIdx_issue u port.name n (Nat.le_refl e)]
    exact h.base.filter_lt_unitIdx n
  have hkeep : ∀ n k, k ∈ unitIdx u n → k ∈ unitIdx (u.set port.name (u.get port.name ++ [⟨e, .U⟩])) n := by
    intro n k hk
    rw [unitIdx_issue]; split
    · exact List.mem_append_left _ hk
    · exact hk
  refine ⟨Nat.le_succ_of_le h.ge, h.base.after_issue hn hport hu.2.2, ?memIff, ?turns⟩
  case memIff =>
    -- the new flag is the old one, exact by `h.memIff`, or set by `e` entering `port`, which is then the witness
    constructor
    · intro hm
      by_cases hmem : mem = true
      · obtain ⟨m, hm1, k, hk, hk1, hk2⟩ := h.memIff.1 hmem
        exact ⟨m, hm1, k, hkeep _ _ hk, hk1, hk2⟩
      · rw [Bool.not_eq_true] at hmem
        rw [hmem, Bool.false_or] at hm
        exact ⟨port, hport, e, mem_unitIdx_issue_self u port.name e, hfresh_old _, by rw [hcap]; exact hm⟩
    · rintro ⟨m, hm1, k, hk, hk1, hk2⟩
      rw [unitIdx_issue] at hk
      by_cases hold : k ∈ unitIdx u m.name
      · rw [h.memIff.2 ⟨m, hm1, k, hold, hk1, hk2⟩]; rfl
      · by_cases hpm : port.name = m.name
        · rw [if_pos hpm, List.mem_append] at hk
          rcases hk with hk | hk
          · exact absurd hk hold
          · simp only [List.mem_singleton] at hk
            subst hk
            have : port = m := unit_eq_of_name_eq hn hport hm1 hpm
            subst this
            rw [hcap] at hk2
            rw [hk2, Bool.or_true]
        · rw [if_neg hpm] at hk
          exact absurd hk hold
  case turns =>
    -- an earlier turn reads only the indices below it, which the new entry `e` is not; the turn of `e` is `hu`, `hpre`
    intro i hi0 hi
    by_cases hie : i < e
    · exact (h.turns i hi0 hie).congr (fun n => filter_lt_unitIdx_issue u port.name n (Nat.le_of_lt hie))
        (fun n => hkeep n i)
    · have : i = e := Nat.le_antisymm (Nat.le_of_lt_succ hi) (Nat.le_of_not_lt hie)
      subst this
      exact ⟨pre, port, post, hs, mem_unitIdx_issue_self u port.name i,
        (usableP_iff_portUsable h.memIff hins hturn port).2 hu,
        fun q hq hq' => hpre q hq ((usableP_iff_portUsable h.memIff hins hturn q).1 hq')⟩

theorem fillCycle_issInv {p : Proc N} (prog : List (Instr N)) {old : Util N} {e0 : Nat} (hc : Adv.CycleHyp p e0 old) :
    ∃ mem', IssInv p prog old e0 (fillCycle p prog old e0).1 mem' (fillCycle p prog old e0).2 ∧
      ∀ ins, prog[(fillCycle p prog old e0).2]? = some ins → ∀ q ∈ p.inBoundary,
        ¬ usableP prog p.allUnits old (fillCycle p prog old e0).1 (fillCycle p prog old e0).2 q := by
  obtain ⟨mem', h1, h2⟩ := issueLoop_induction prog (sortedInputs p) (IssInv p prog old e0)
    (fun u mem e ins pre port post hP hins hs hu hpre => hP.step (structOK_nodup_names hc.wf) hc.base hins hs hu hpre)
    (moveFlights p prog old).1 (moveFlights p prog old).2 e0 (IssInv.init hc)
  refine ⟨mem', h1, ?_⟩
  intro ins hins q hq hq'
  have hnone := tryPorts_eq_none_iff.1 (h2 ins hins) q (mem_sortedInputs.2 hq)
  apply hnone
  exact (usableP_iff_portUsable h1.memIff hins h1.base.filter_lt_unitIdx q).1 hq'

end issue

section diag
variable [LT N] [DecidableRel (α := N) (· < ·)]

/-- What a successful cycle does, seen from the issue side: `old`/`new` are the previous and the new record, `e0`/`e1`
the values of `entered` before and after. -/
structure CycleFacts (p : Proc N) (prog : List (Instr N)) (old : Util N) (e0 : Nat) (new : Util N) (e1 : Nat) :
    Prop where
  oldBase : RowBase p e0 old
  newBase : RowBase p e1 new
  newND : RowND new
  ge : e0 ≤ e1
  le : e1 ≤ prog.length
  /-- instructions `e0 … e1-1` were issued, each into the first usable port -/
  turns : ∀ i, e0 ≤ i → i < e1 → TurnFacts p prog old new i
  /-- the next instruction (if any) found no usable port -/
  blocked : ∀ ins, prog[e1]? = some ins → ∀ q ∈ p.inBoundary, ¬ usableP prog p.allUnits old new e1 q

theorem CycleFacts.of_labelAll {p : Proc N} {prog : List (Instr N)} (hs : structOK p = true) {old : Util N} {e : Nat}
    (hb : RowBase p e old) (hnd : RowND old) (he : e ≤ prog.length) {units : List (UnitM N)} {qs : Queues N}
    {lab : Util N × List (N × Nat)} (hlab : labelAll units prog qs old (fillCycle p prog old e).1 = .ok lab) :
    CycleFacts p prog old e lab.1 (fillCycle p prog old e).2 := by
  have hn := structOK_nodup_names hs
  obtain ⟨mem', hI, hblk⟩ := fillCycle_issInv prog ⟨hs, hb, hnd⟩
  have hidx : ∀ n, unitIdx lab.1 n = unitIdx (fillCycle p prog old e).1 n := fun n => labelAll_get_idx hlab n
  refine ⟨hb, hb.after_cycle hn hlab, hnd.after_cycle hb hs hlab, fillCycle_entered_ge _ _ _ _,
    fillCycle_entered_le _ _ _ _ he, ?_, ?_⟩
  · intro i hi0 hi1
    exact (hI.turns i hi0 hi1).congr (fun n => by rw [hidx]) (fun n hin => by rw [hidx]; exact hin)
  · intro ins hins q hq hq'
    exact hblk ins hins q hq ((usableP_congr (fun n => by rw [hidx n]) q).1 hq')

/-- the `entered` counters `E 0 = 0, E 1, …` of a diagram, with the facts of every recorded cycle -/
structure DiagFacts (p : Proc N) (prog : List (Instr N)) (tbl : List (Util N)) (E : Nat → Nat) : Prop where
  zero : E 0 = 0
  cycle : ∀ t, t < tbl.length →
    CycleFacts p prog (prevRow tbl t) (E t) (tbl.getD t ([] : List (N × List HI))) (E (t + 1))

theorem Diagram_issueFacts {p : Proc N} {prog : List (Instr N)} (hs : structOK p = true)
    {tbl : List (Util N)} {stalled : Bool} (h : Diagram p prog tbl stalled) :
    ∃ E, DiagFacts p prog tbl E ∧ E tbl.length ≤ prog.length := by
  obtain ⟨s, ⟨hc, hch⟩, rfl, _⟩ := simulate_induction (p := p) (prog := prog)
    (fun s => CoreInv p prog s ∧ Chain (fun e old new e' => CycleFacts p prog old e new e') s.entered s.table)
    ⟨CoreInv.init p prog, rfl⟩
    (by
      rintro s s' ⟨hc, hch⟩ hr
      refine ⟨hc.step hs hr, ?_⟩
      obtain ⟨lab, qs, hlab, _, _, rfl⟩ := runCycle_eq_some hr
      exact ⟨s.entered, hc.util_eq ▸ CycleFacts.of_labelAll hs hc.row hc.nd hc.entered_le hlab, hch⟩)
    tbl stalled h
  obtain ⟨E, h0, hE, hD⟩ := hch.toFun
  refine ⟨E, ⟨h0, fun t ht => hD t (by rwa [List.length_reverse] at ht)⟩, ?_⟩
  rw [List.length_reverse, hE]
  exact hc.entered_le

end diag

section reading
variable [LT N] [DecidableRel (α := N) (· < ·)]
variable {p : Proc N} {prog : List (Instr N)} {tbl : List (Util N)} {E : Nat → Nat}

theorem DiagFacts.run (hD : DiagFacts p prog tbl E) (stalled : Bool) : Run (ctx p prog tbl stalled) E :=
  ⟨hD.zero, fun t ht => (hD.cycle t ht).ge, fun t ht => (hD.cycle t ht).newBase, fun t ht i h0 h1 => by
    obtain ⟨_, port, _, _, hi, _⟩ := (hD.cycle t ht).turns i h0 h1
    exact ⟨port.name, hi⟩⟩

theorem DiagFacts.old_lt (hD : DiagFacts p prog tbl E) {t : Nat} (ht : t < tbl.length) {n : N} {k : Nat}
    (hk : k ∈ unitIdx (prevRow tbl t) n) : k < E t :=
  (hD.cycle t ht).oldBase.unitIdx_lt hk

/-- the first position of an instruction issued in cycle `t` is `(t, port, _)` where `port` is the first usable
input port at its turn -/
theorem DiagFacts.head_of_issued (hD : DiagFacts p prog tbl E) (hn : (p.allUnits.map (·.name)).Nodup)
    (stalled : Bool) {t i : Nat} (ht : t < tbl.length) (h0 : E t ≤ i) (h1 : i < E (t + 1)) :
    ∃ pre port post st, sortedInputs p = pre ++ port :: post ∧
      ((ctx p prog tbl stalled).positions i).head? = some (t, port, st) ∧
      usableP prog p.allUnits (prevRow tbl t) (tbl.getD t ([] : List (N × List HI))) i port ∧
      ∀ q ∈ pre, ¬ usableP prog p.allUnits (prevRow tbl t) (tbl.getD t ([] : List (N × List HI))) i q := by
  obtain ⟨pre, port, post, hs, hi, hu, hpre⟩ := (hD.cycle t ht).turns i h0 h1
  have hport : port ∈ p.allUnits := mem_allUnits_of_mem_inBoundary (mem_sortedInputs.1 (by rw [hs]; simp))
  obtain ⟨⟨a, b, st⟩, hh, rfl, hx⟩ := (hD.run stalled).head_cycle ht h0 h1
  obtain ⟨_, hxu, hz⟩ := mem_rowPos.1 hx
  -- `i` sits in `b` and in `port` in row `a`, hence `b = port`
  have hname : b.name = port.name := (hD.cycle a ht).newND.unique_host _ _ i (List.mem_map.2 ⟨_, hz, rfl⟩) hi
  have : b = port := unit_eq_of_name_eq hn hxu hport hname
  subst this
  exact ⟨pre, b, post, st, hs, hh, hu, hpre⟩

theorem DiagFacts.memBefore_iff (hD : DiagFacts p prog tbl E)
    (stalled : Bool) {t i : Nat} (ht : t < tbl.length) (h0 : E t ≤ i) :
    memBefore (ctx p prog tbl stalled) t i = true ↔
      memWitLt prog p.allUnits (prevRow tbl t) (tbl.getD t ([] : List (N × List HI))) i := by
  -- Of the entries of cycle `t`, `memBefore` keeps those first seen before `t` or of index `< i`, `memWitLt` those of
  -- index `< i`. These are the same: an entry hosted in cycle `t` with index `≥ E t` is first seen in `t`
  -- (`Run.firstCycle_eq`), so one first seen earlier has index `< E t ≤ i`.
  constructor
  · intro h
    unfold memBefore at h
    rw [List.any_eq_true] at h
    obtain ⟨u, hu, h⟩ := h
    rw [List.any_eq_true] at h
    obtain ⟨y, hy, h⟩ := h
    simp only [Bool.and_eq_true, Bool.or_eq_true, decide_eq_true_eq] at h
    obtain ⟨⟨⟨_, hent⟩, hmem⟩, hlast⟩ := h
    obtain ⟨hin, hout⟩ := (Ctx.entersAt_iff _ _ _ _).1 hent
    have hlt : y.idx < i := by
      rcases hlast with h | h
      · by_cases hge : E t ≤ y.idx
        · have := (hD.run stalled).firstCycle_eq ht hge ((hD.run stalled).hosted_lt ht ⟨_, hin⟩)
          rw [this] at h
          simp at h
        · omega
      · exact h
    exact ⟨u, hu, y.idx, List.mem_filter.2 ⟨hin, by simpa using hlt⟩, hout, hmem⟩
  · rintro ⟨m, hm, k, hk, hk1, hk2⟩
    obtain ⟨hk0, hklt⟩ := List.mem_filter.1 hk
    have hklt : k < i := by simpa using hklt
    obtain ⟨y, hy, rfl⟩ := List.mem_map.1 hk0
    unfold memBefore
    refine List.any_eq_true.2 ⟨m, hm, List.any_eq_true.2 ⟨y, hy, ?_⟩⟩
    simp only [Bool.and_eq_true, Bool.or_eq_true, decide_eq_true_eq]
    refine ⟨⟨⟨?_, (Ctx.entersAt_iff _ _ _ _).2 ⟨hk0, hk1⟩⟩, hk2⟩, Or.inr hklt⟩
    simp only [bne_iff_ne, ne_eq]
    omega

/-- at `i`'s turn in cycle `t` a port holds its residents that stayed and the instructions issued before `i`: those
of its final content with an index `< i`, since whatever was there before the cycle has an index `< E t ≤ i` -/
theorem DiagFacts.occAtTurn_eq (hD : DiagFacts p prog tbl E) (stalled : Bool) {t i : Nat} (ht : t < tbl.length)
    (h0 : E t ≤ i) (u : UnitM N) :
    occAtTurn (ctx p prog tbl stalled) t i u = cntLt (tbl.getD t ([] : List (N × List HI))) u.name i := by
  unfold occAtTurn cntLt unitIdx
  rw [List.filter_map, List.length_map]
  refine congrArg List.length (List.filter_congr (fun y hy => ?_))
  show (!(ctx p prog tbl stalled).entersAt t u.name y.idx || decide (y.idx < i)) = decide (y.idx < i)
  by_cases hlt : y.idx < i
  · rw [decide_eq_true hlt, Bool.or_true]
  · have hent : (ctx p prog tbl stalled).entersAt t u.name y.idx = true := by
      refine (Ctx.entersAt_iff _ _ _ _).2 ⟨List.mem_map.2 ⟨y, hy, rfl⟩, fun hold => hlt ?_⟩
      have := hD.old_lt ht hold
      omega
    rw [hent, decide_eq_false hlt]
    rfl

omit [LT N] [DecidableRel (α := N) (· < ·)] in
theorem cntLt_eq_length {u : Util N} {n : N} {i : Nat} (h : ∀ x ∈ u.get n, x.idx < i) :
    cntLt u n i = (u.get n).length := by
  unfold cntLt unitIdx
  rw [filter_lt_eq_self, List.length_map]
  intro k hk
  obtain ⟨x, hx, rfl⟩ := List.mem_map.1 hk
  exact h x hx

omit [LT N] [DecidableRel (α := N) (· < ·)] in
theorem cntLt_le_length (u : Util N) (n : N) (i : Nat) : cntLt u n i ≤ (u.get n).length := by
  unfold cntLt unitIdx
  have := (List.filter_sublist (l := (u.get n).map (·.idx)) (p := fun k => decide (k < i))).length_le
  simpa using this

theorem DiagFacts.usableAtTurn_iff (hD : DiagFacts p prog tbl E)
    (stalled : Bool) {t i : Nat} (ht : t < tbl.length) (h0 : E t ≤ i) {u : UnitM N} (hu : u ∈ p.allUnits)
    (hsup : capIn prog i u.caps = true) :
    usableAtTurn (ctx p prog tbl stalled) t i u = true ↔
      usableP prog p.allUnits (prevRow tbl t) (tbl.getD t ([] : List (N × List HI))) i u := by
  have hw := (hD.cycle t ht).newBase.width u hu
  have hc := cntLt_le_length (tbl.getD t ([] : List (N × List HI))) u.name i
  have hmb := hD.memBefore_iff stalled ht h0
  unfold usableAtTurn usableP
  rw [hD.occAtTurn_eq stalled ht h0]
  simp only [Bool.and_eq_true, decide_eq_true_eq, Bool.not_eq_true', Bool.and_eq_false_iff]
  constructor
  · rintro ⟨h1, h2⟩
    refine ⟨hsup, ?_, by omega⟩
    rintro ⟨ha, hb⟩
    rcases h2 with h2 | h2
    · exact absurd ha (by rw [show needsMem (ctx p prog tbl stalled).prog i u = capIn prog i u.acl from rfl] at h2; simp [h2])
    · rw [hmb.2 hb] at h2; cases h2
  · rintro ⟨_, h2, h3⟩
    refine ⟨by omega, ?_⟩
    by_cases ha : capIn prog i u.acl = true
    · right
      cases hb : memBefore (ctx p prog tbl stalled) t i
      · rfl
      · exact absurd ⟨ha, hmb.1 hb⟩ h2
    · left
      rw [Bool.not_eq_true] at ha
      exact ha

/-- the checker's clause for the instruction held back after cycle `t` -/
theorem DiagFacts.blocked_clause (hD : DiagFacts p prog tbl E) (stalled : Bool) {t : Nat} (ht : t < tbl.length)
    {q : UnitM N}
    (hq : ¬ usableP prog p.allUnits (prevRow tbl t) (tbl.getD t ([] : List (N × List HI))) (E (t + 1)) q) :
    (!supports (ctx p prog tbl stalled).prog (E (t + 1)) q || (ctx p prog tbl stalled).full t q ||
      (needsMem (ctx p prog tbl stalled).prog (E (t + 1)) q &&
        (ctx p prog tbl stalled).memTakenByOther t (E (t + 1)))) = true := by
  have hcnt : cntLt (tbl.getD t ([] : List (N × List HI))) q.name (E (t + 1)) =
      ((tbl.getD t ([] : List (N × List HI))).get q.name).length :=
    cntLt_eq_length fun x hx => (hD.run stalled).hosted_lt ht ⟨_, List.mem_map.2 ⟨x, hx, rfl⟩⟩
  -- `usableP` fails in one of its three clauses, and each is a disjunct of the checker's clause
  by_cases h1 : capIn prog (E (t + 1)) q.caps = true
  · by_cases h3 : cntLt (tbl.getD t ([] : List (N × List HI))) q.name (E (t + 1)) = q.width
    · have : (ctx p prog tbl stalled).full t q = true := by
        unfold Ctx.full
        apply decide_eq_true
        rw [hcnt] at h3
        show q.width ≤ ((tbl.getD t ([] : List (N × List HI))).get q.name).length
        omega
      simp [this]
    · have h2 : capIn prog (E (t + 1)) q.acl = true ∧
          memWitLt prog p.allUnits (prevRow tbl t) (tbl.getD t ([] : List (N × List HI))) (E (t + 1)) := by
        by_cases h2 : capIn prog (E (t + 1)) q.acl = true ∧
          memWitLt prog p.allUnits (prevRow tbl t) (tbl.getD t ([] : List (N × List HI))) (E (t + 1))
        · exact h2
        · exact absurd ⟨h1, h2, h3⟩ hq
      obtain ⟨ha, m, hm, k, hk, hk1, hk2⟩ := h2
      obtain ⟨hk0, hklt⟩ := List.mem_filter.1 hk
      have hklt : k < E (t + 1) := by simpa using hklt
      obtain ⟨y, hy, rfl⟩ := List.mem_map.1 hk0
      have hmt : (ctx p prog tbl stalled).memTakenByOther t (E (t + 1)) = true := by
        unfold Ctx.memTakenByOther
        refine List.any_eq_true.2 ⟨m, hm, List.any_eq_true.2 ⟨y, hy, ?_⟩⟩
        simp only [Bool.and_eq_true]
        refine ⟨⟨?_, (Ctx.entersAt_iff _ _ _ _).2 ⟨hk0, hk1⟩⟩, hk2⟩
        simp only [bne_iff_ne, ne_eq]
        omega
      have hnm : needsMem (ctx p prog tbl stalled).prog (E (t + 1)) q = true := ha
      simp [hmt, hnm]
  · have : supports (ctx p prog tbl stalled).prog (E (t + 1)) q = false := by
      rw [Bool.not_eq_true] at h1; exact h1
    simp [this]

end reading

end ProcSim
