import ProcSim.Spec.Text
import ProcSim.Lemmas.AMap
import ProcSim.Lemmas.Checker
import ProcSim.Lemmas.Forall2
import Batteries.Data.Char.AsciiCasing
/-!
# Instruction sets: case folding, the capability registry, `createIsa`, `icaseSet`, `compileProgram`

* ASCII folding: `upper x = upper y ↔ lower x = lower y` holds for **every** `List Char` (no ASCII hypothesis).
  The reason is Batteries' `Char.toLower_toUpper_eq_toLower` and `Char.toUpper_toLower_eq_toUpper`, which hold on
  all of `Char` because `Char.toUpper`/`Char.toLower` only touch `a–z`/`A–Z`. This is the only use of Batteries
  here; `Lemmas/Recase.lean` and `Lemmas/Words.lean` use it for further `Char` and `String` facts.
* the capability registry (`foldl set`), the loop invariant of `Isa.createIsa` (`LoadInv`) and what a result of
  `load_isa` satisfies (`createIsa_holds`); `icaseSet`; `compileProgram` instruction by instruction (`compile_spec`).
-/
namespace ProcSim

attribute [local implicit_reducible] AMap

namespace IsaLemmas

open ICase (lower upper)

theorem lower_upper (x : List Char) : lower (upper x) = lower x := by
  simp only [lower, upper, List.map_map, Function.comp_def, Char.toLower_toUpper_eq_toLower]

theorem upper_lower (x : List Char) : upper (lower x) = upper x := by
  simp only [lower, upper, List.map_map, Function.comp_def, Char.toUpper_toLower_eq_toUpper]

theorem upper_eq_iff_lower_eq {x y : List Char} : upper x = upper y ↔ lower x = lower y := by
  constructor
  · intro h
    simpa only [lower_upper] using congrArg lower h
  · intro h
    simpa only [upper_lower] using congrArg upper h

theorem mem_of_get?_eq_some {K V : Type} [DecidableEq K] (m : List (K × V)) (k : K) (v : V)
    (h : AMap.get? m k = some v) : (k, v) ∈ m :=
  AMap.mem_of_get?_eq_some h

open Spec Spec.Text
open Isa (Str IsaError CompileError Registry)

theorem offeredB_iff (caps : List Str) (cap : Str) :
    offeredB caps cap = true ↔ ∃ c ∈ caps, lower c = lower cap := by
  simp only [offeredB, List.any_eq_true, beq_iff_eq]

theorem offeredB_false_iff (caps : List Str) (cap : Str) :
    offeredB caps cap = false ↔ ∀ c ∈ caps, lower c ≠ lower cap := by
  simp only [offeredB, List.any_eq_false, beq_iff_eq, ne_eq]

theorem capFold_some (caps : List Str) (m : List (Str × Str)) (k v : Str)
    (h : AMap.get? (caps.foldl (fun m c => AMap.set m (lower c) c) m) k = some v) :
    (v ∈ caps ∧ lower v = k) ∨ AMap.get? m k = some v := by
  induction caps generalizing m with
  | nil => exact .inr h
  | cons c cs ih =>
    rcases ih _ h with h' | h'
    · exact .inl ⟨List.mem_cons_of_mem _ h'.1, h'.2⟩
    · by_cases hk : lower c = k
      · subst hk
        rw [AMap.get?_set_eq] at h'
        cases h'
        exact .inl ⟨by simp, rfl⟩
      · rw [AMap.get?_set_ne _ _ hk] at h'
        exact .inr h'

theorem capFold_none (caps : List Str) (m : List (Str × Str)) (k : Str) :
    AMap.get? (caps.foldl (fun m c => AMap.set m (lower c) c) m) k = none ↔
      AMap.get? m k = none ∧ ∀ c ∈ caps, lower c ≠ k := by
  induction caps generalizing m with
  | nil => simp
  | cons c cs ih =>
    rw [List.foldl_cons, ih]
    by_cases hk : lower c = k
    · subst hk
      rw [AMap.get?_set_eq]
      exact ⟨nofun, fun h => absurd rfl (h.2 c List.mem_cons_self)⟩
    · rw [AMap.get?_set_ne _ _ hk, List.forall_mem_cons]
      exact and_congr_right fun _ => (and_iff_right hk).symm

theorem capRegistry_some (caps : List Str) (cap std : Str)
    (h : AMap.get? (Isa.capRegistry caps) (lower cap) = some std) : std ∈ caps ∧ lower std = lower cap := by
  rcases capFold_some caps [] _ _ h with h' | h'
  · exact h'
  · simp at h'

theorem capRegistry_none_iff (caps : List Str) (cap : Str) :
    AMap.get? (Isa.capRegistry caps) (lower cap) = none ↔ offeredB caps cap = false := by
  rw [offeredB_false_iff]
  unfold Isa.capRegistry
  rw [capFold_none]; simp

def NoColl (isa : List (Str × Str)) : Prop := isa.Pairwise (fun x y => lower x.1 ≠ lower y.1)

theorem collides_iff (isa : List (Str × Str)) : Collides isa ↔ ¬ NoColl isa := by
  unfold Collides NoColl
  rw [List.pairwise_iff_getElem]
  constructor
  · rintro ⟨i, j, hij, x, y, hx, hy, hxy⟩ h
    obtain ⟨hi, rfl⟩ := List.getElem?_eq_some_iff.1 hx
    obtain ⟨hj, rfl⟩ := List.getElem?_eq_some_iff.1 hy
    exact h i j hi hj hij hxy
  · intro h
    apply Classical.byContradiction
    intro hn
    apply h
    intro i j hi hj hij hxy
    exact hn ⟨i, j, hij, isa[i], isa[j], List.getElem?_eq_getElem hi, List.getElem?_eq_getElem hj, hxy⟩

theorem collidesB_iff_not_noColl (isa : List (Str × Str)) : collidesB isa = true ↔ ¬ NoColl isa := by
  induction isa with
  | nil => simp [collidesB, NoColl]
  | cons e es ih =>
    unfold NoColl at ih ⊢
    rw [List.pairwise_cons, collidesB, Bool.or_eq_true, ih]
    constructor
    · rintro (h | h) ⟨h1, h2⟩
      · obtain ⟨f, hf, hfe⟩ := List.any_eq_true.1 h
        exact h1 f hf (by simp at hfe; exact hfe.symm)
      · exact h h2
    · intro h
      by_cases h1 : es.any (fun f => lower f.1 == lower e.1) = true
      · exact .inl h1
      · refine .inr (fun h2 => h ⟨?_, h2⟩)
        intro f hf hfe
        exact h1 (List.any_eq_true.2 ⟨f, hf, by simp [hfe]⟩)

theorem collidesB_iff (isa : List (Str × Str)) : collidesB isa = true ↔ Collides isa := by
  rw [collidesB_iff_not_noColl, collides_iff]

theorem defective_false_iff (isa : List (Str × Str)) (caps : List Str) :
    (collidesB isa || isa.any (fun e => !offeredB caps e.2)) = false ↔
      (¬ Collides isa ∧ ∀ e ∈ isa, offeredB caps e.2 = true) := by
  rw [Bool.or_eq_false_iff, ← collidesB_iff]
  simp

/-- the duplicate named by the error really occurs, earlier spelling first -/
def RealDup (old new : Str) (isa : List (Str × Str)) : Prop :=
  ∃ i j : Nat, i < j ∧ ∃ x y : Str × Str, isa[i]? = some x ∧ isa[j]? = some y ∧ x.1 = old ∧ y.1 = new

theorem realDup_iff (old new : Str) (isa : List (Str × Str)) : realDup old new isa = true ↔ RealDup old new isa := by
  induction isa with
  | nil => simp [realDup, RealDup]
  | cons e es ih =>
    rw [realDup, Bool.or_eq_true, ih]
    constructor
    · rintro (h | ⟨i, j, hij, x, y, hx, hy, hxo, hyn⟩)
      · rw [Bool.and_eq_true] at h
        obtain ⟨f, hf, hfn⟩ := List.any_eq_true.1 h.2
        obtain ⟨j, hj⟩ := List.getElem?_of_mem hf
        exact ⟨0, j + 1, Nat.succ_pos _, e, f, rfl, List.getElem?_cons_succ.trans hj, eq_of_beq h.1, eq_of_beq hfn⟩
      · exact ⟨i + 1, j + 1, Nat.succ_lt_succ hij, x, y, List.getElem?_cons_succ.trans hx,
          List.getElem?_cons_succ.trans hy, hxo, hyn⟩
    · rintro ⟨i, j, hij, x, y, hx, hy, hxo, hyn⟩
      cases j with
      | zero => omega
      | succ j =>
        rw [List.getElem?_cons_succ] at hy
        cases i with
        | zero =>
          cases hx
          refine .inl ?_
          rw [Bool.and_eq_true]
          exact ⟨beq_iff_eq.2 hxo, List.any_eq_true.2 ⟨y, List.mem_of_getElem? hy, beq_iff_eq.2 hyn⟩⟩
        | succ i =>
          rw [List.getElem?_cons_succ] at hx
          exact .inr ⟨i, j, Nat.lt_of_succ_lt_succ hij, x, y, hx, hy, hxo, hyn⟩

/-- `modelIsaObs` as a function of the result, so that it applies to `createIsa` from any state of its loop -/
def isaObsOf : Except IsaError (AMap Str Str) → IsaObs
  | .ok m => .ok m
  | .error (.dupInstr old new) => .dup old new
  | .error (.undefCap cap) => .undef cap

theorem modelIsaObs_eq (isa : List (Str × Str)) (caps : List Str) :
    modelIsaObs isa caps = isaObsOf (Isa.loadIsa isa caps) := rfl

/-- invariant of the comprehension of `_create_isa` after the entries `done` -/
structure LoadInv (caps : List Str) (done : List (Str × Str)) (instrReg : List (Str × Str))
    (acc : List (Str × Str)) : Prop where
  regNone : ∀ k, AMap.get? instrReg k = none → ∀ e ∈ done, lower e.1 ≠ k
  regSome : ∀ k old, AMap.get? instrReg k = some old →
    ∃ (i : Nat) (e : Str × Str), done[i]? = some e ∧ e.1 = old ∧ lower old = k
  nocoll : NoColl done
  offered : ∀ e ∈ done, offeredB caps e.2 = true
  len : acc.length = done.length
  look : ∀ e : Str × Str, e ∈ done → ∃ std, lookup acc (upper e.1) = some std ∧ std ∈ caps ∧ lower std = lower e.2
  keys : ∀ kv ∈ acc, ∃ e ∈ done, kv.1 = upper e.1

theorem LoadInv.init (caps : List Str) : LoadInv caps [] [] [] :=
  { regNone := by simp, regSome := by simp, nocoll := List.Pairwise.nil, offered := by simp, len := rfl,
    look := by simp, keys := by simp }

theorem LoadInv.step {caps : List Str} {done instrReg acc : List (Str × Str)} (inv : LoadInv caps done instrReg acc)
    (instr cap std : Str) (h1 : AMap.get? instrReg (lower instr) = none)
    (h2 : AMap.get? (Isa.capRegistry caps) (lower cap) = some std) :
    LoadInv caps (done ++ [(instr, cap)]) (AMap.set instrReg (lower instr) instr)
      (AMap.set acc (upper instr) std) := by
  obtain ⟨hstd, hlow⟩ := capRegistry_some caps cap std h2
  have hfresh : ∀ e ∈ done, lower e.1 ≠ lower instr := inv.regNone _ h1
  have hkey : AMap.get? acc (upper instr) = none := by
    refine AMap.get?_eq_none_iff.2 fun hmem => ?_
    obtain ⟨kv, hkv, hk⟩ := List.mem_map.1 hmem
    obtain ⟨e, he, hke⟩ := inv.keys kv hkv
    rw [hke] at hk
    exact hfresh e he (upper_eq_iff_lower_eq.1 hk)
  have hset : AMap.set acc (upper instr) std = acc ++ [(upper instr, std)] :=
    AMap.set_of_get?_eq_none _ hkey
  -- every field speaks of `done ++ [(instr, cap)]`: the old entries by `inv`, the new one by hand
  refine { regNone := ?_, regSome := ?_, nocoll := ?_, offered := ?_, len := ?_, look := ?_, keys := ?_ }
  · intro k hk
    have hne : lower instr ≠ k := by
      intro h; subst h; rw [AMap.get?_set_eq] at hk; cases hk
    rw [AMap.get?_set_ne _ _ hne] at hk
    exact List.forall_mem_append.2 ⟨inv.regNone k hk, List.forall_mem_singleton.2 hne⟩
  · intro k old hk
    by_cases hne : lower instr = k
    · subst hne
      rw [AMap.get?_set_eq] at hk
      cases hk
      exact ⟨done.length, (instr, cap), by simp, rfl, rfl⟩
    · rw [AMap.get?_set_ne _ _ hne] at hk
      obtain ⟨i, e, hi, he⟩ := inv.regSome k old hk
      have hlt : i < done.length := (List.getElem?_eq_some_iff.1 hi).1
      exact ⟨i, e, by rw [List.getElem?_append_left hlt]; exact hi, he⟩
  · exact List.pairwise_append.2 ⟨inv.nocoll, List.pairwise_singleton _ _,
      fun a ha b hb => List.mem_singleton.1 hb ▸ hfresh a ha⟩
  · exact List.forall_mem_append.2 ⟨inv.offered, List.forall_mem_singleton.2 ((offeredB_iff _ _).2 ⟨std, hstd, hlow⟩)⟩
  · rw [hset, List.length_append, List.length_append, inv.len]
    rfl
  · refine List.forall_mem_append.2 ⟨fun e he => ?_, List.forall_mem_singleton.2 ?_⟩
    · obtain ⟨s, hs⟩ := inv.look e he
      have hne : upper instr ≠ upper e.1 := fun h => hfresh e he (upper_eq_iff_lower_eq.1 h.symm)
      exact ⟨s, (AMap.get?_set_ne _ _ hne).trans hs.1, hs.2⟩
    · exact ⟨std, AMap.get?_set_eq _ _ _, hstd, hlow⟩
  · rw [hset]
    refine List.forall_mem_append.2 ⟨fun kv hkv => ?_, List.forall_mem_singleton.2 ?_⟩
    · obtain ⟨e, he, hke⟩ := inv.keys kv hkv
      exact ⟨e, List.mem_append_left _ he, hke⟩
    · exact ⟨(instr, cap), List.mem_append_right _ (List.mem_singleton.2 rfl), rfl⟩

theorem createIsa_holds (caps : List Str) (rest done instrReg acc : List (Str × Str))
    (inv : LoadInv caps done instrReg acc) :
    C15_LoadHolds (done ++ rest) caps (isaObsOf (Isa.createIsa (Isa.capRegistry caps) instrReg acc rest)) := by
  induction rest generalizing done instrReg acc with
  | nil =>
    simp only [Isa.createIsa, isaObsOf, C15_LoadHolds, List.append_nil]
    exact ⟨fun h => (collides_iff _).1 h inv.nocoll, inv.offered, inv.len, inv.look, inv.keys⟩
  | cons ic rest ih =>
    obtain ⟨instr, cap⟩ := ic
    unfold Isa.createIsa
    cases h1 : AMap.get? instrReg (lower instr) with
    | some old =>
      simp only [isaObsOf, C15_LoadHolds]
      obtain ⟨i, e, hi, he, hlo⟩ := inv.regSome _ old h1
      have hlt : i < done.length := (List.getElem?_eq_some_iff.1 hi).1
      exact ⟨i, done.length, hlt, e, (instr, cap), by rw [List.getElem?_append_left hlt]; exact hi,
        by simp, he, rfl, hlo⟩
    | none =>
      cases h2 : AMap.get? (Isa.capRegistry caps) (lower cap) with
      | none =>
        simp only [isaObsOf, C15_LoadHolds]
        exact ⟨⟨(instr, cap), by simp, rfl⟩, (capRegistry_none_iff _ _).1 h2⟩
      | some std =>
        have := ih _ _ _ (inv.step instr cap std h1 h2)
        simpa using this

theorem mem_icaseSet {l : List Str} {c : Str} (h : c ∈ Isa.icaseSet l) : c ∈ l := by
  induction l with
  | nil => simp [Isa.icaseSet] at h
  | cons d ds ih =>
    simp only [Isa.icaseSet, List.mem_cons, List.mem_filter] at h ⊢
    rcases h with h | h
    · exact .inl h
    · exact .inr (ih h.1)

theorem offeredB_icaseSet (l : List Str) (x : Str) : offeredB (Isa.icaseSet l) x = offeredB l x := by
  induction l with
  | nil => rfl
  | cons d ds ih =>
    rw [Bool.eq_iff_iff, offeredB_iff, offeredB_iff]
    have ih' := ih
    rw [Bool.eq_iff_iff, offeredB_iff, offeredB_iff] at ih'
    simp only [Isa.icaseSet, List.mem_cons, List.mem_filter]
    constructor
    · rintro ⟨c, hc | hc, hcx⟩
      · exact ⟨c, .inl hc, hcx⟩
      · obtain ⟨c', hc', hcx'⟩ := ih'.1 ⟨c, hc.1, hcx⟩
        exact ⟨c', .inr hc', hcx'⟩
    · rintro ⟨c, hc | hc, hcx⟩
      · exact ⟨c, .inl hc, hcx⟩
      · by_cases hd : lower d = lower x
        · exact ⟨d, .inl rfl, hd⟩
        · obtain ⟨c', hc', hcx'⟩ := ih'.2 ⟨c, hc, hcx⟩
          exact ⟨c', .inr ⟨hc', by simpa [hcx'] using fun h => hd h.symm⟩, hcx'⟩

theorem icaseSet_pairwise (l : List Str) : (Isa.icaseSet l).Pairwise (fun x y => lower x ≠ lower y) := by
  induction l with
  | nil => exact List.Pairwise.nil
  | cons d ds ih =>
    simp only [Isa.icaseSet]
    rw [List.pairwise_cons]
    refine ⟨?_, ih.filter _⟩
    intro c hc
    have := (List.mem_filter.1 hc).2
    intro h
    simp [h] at this

theorem noCaseDup_iff (l : List Str) : noCaseDup l = true ↔ l.Pairwise (fun x y => lower x ≠ lower y) := by
  induction l with
  | nil => simp [noCaseDup]
  | cons c cs ih =>
    rw [noCaseDup, Bool.and_eq_true, ih, List.pairwise_cons]
    simp only [Bool.not_eq_true', List.any_eq_false, beq_iff_eq]
    constructor
    · rintro ⟨h1, h2⟩
      exact ⟨fun d hd h => h1 d hd h.symm, h2⟩
    · rintro ⟨h1, h2⟩
      exact ⟨fun d hd h => h1 d hd h.symm, h2⟩

/-- `modelCompileObs` as a function of the result -/
def compileObsOf : Except CompileError (List (Instr Str)) → CompileObs
  | .ok hw => .ok hw
  | .error e => .undef e.name e.message

theorem modelCompileObs_eq (isa : List (Str × Str)) (prog : List Program.ProgInstr) :
    modelCompileObs isa prog = compileObsOf (Isa.compileProgram isa prog) := rfl

def CompiledAs (isa : List (Str × Str)) (p : Program.ProgInstr) (h : Instr Str) : Prop :=
  h.srcs = p.srcs ∧ h.dst = p.dst ∧ lookup isa (upper p.name) = some h.cap

/-- the sources of a compiled instruction are `sortedUniq` of the given ones, stated as whatever `S` holds of those -/
theorem compile_spec (isa : List (Str × Str)) (prog : List Program.ProgInstr)
    (S : Program.ProgInstr → List Str → Prop) (hs : ∀ p ∈ prog, S p (Program.sortedUniq p.srcs)) :
    match firstUnsupported isa prog with
    | none => ∃ hw, Isa.compileProgram isa prog = .ok hw ∧
        Forall2 (fun p h => S p h.srcs ∧ h.dst = p.dst ∧ lookup isa (upper p.name) = some h.cap) prog hw
    | some p => Isa.compileProgram isa prog = .error { name := p.name, line := p.line } := by
  induction prog with
  | nil => exact ⟨[], rfl, trivial⟩
  | cons p ps ih =>
    have ih := ih (fun q hq => hs q (List.mem_cons_of_mem _ hq))
    unfold firstUnsupported lookup Isa.compileProgram
    cases hcap : AMap.get? isa (upper p.name) with
    | none => rfl
    | some cap =>
      simp only [Option.isSome_some, ↓reduceIte]
      generalize firstUnsupported isa ps = fu at ih ⊢
      cases fu with
      | some q => simp only [ih]
      | none =>
        obtain ⟨hw, hc, hf⟩ := ih
        exact ⟨{ srcs := Program.sortedUniq p.srcs, dst := p.dst, cap := cap } :: hw, by simp only [hc],
          ⟨hs p List.mem_cons_self, rfl, hcap⟩, hf⟩

theorem compile_ok_spec (isa : List (Str × Str)) (prog : List Program.ProgInstr)
    (S : Program.ProgInstr → List Str → Prop) (hs : ∀ p ∈ prog, S p (Program.sortedUniq p.srcs))
    {hw : List (Instr Str)} (h : Isa.compileProgram isa prog = .ok hw) :
    Forall2 (fun p h => S p h.srcs ∧ h.dst = p.dst ∧ lookup isa (upper p.name) = some h.cap) prog hw := by
  have hspec := compile_spec isa prog S hs
  rw [h] at hspec
  split at hspec
  · obtain ⟨_, heq, hf⟩ := hspec
    cases heq
    exact hf
  · cases hspec

theorem compileProgram_length (isa : List (Str × Str)) (prog : List Program.ProgInstr) (hw : List (Instr Str))
    (h : Isa.compileProgram isa prog = .ok hw) : hw.length = prog.length :=
  (compile_ok_spec isa prog (fun _ _ => True) (fun _ _ => trivial) h).length_eq.symm

theorem checkCompiled_iff (j : Nat) (isa : List (Str × Str)) (prog : List Program.ProgInstr) (hw : List (Instr Str)) :
    checkCompiled j isa prog hw = none ↔ Forall2 (CompiledAs isa) prog hw := by
  induction prog generalizing j hw with
  | nil => cases hw <;> simp [checkCompiled, Forall2]
  | cons p ps ih =>
    cases hw with
    | nil => simp [checkCompiled, Forall2]
    | cons h hs =>
      simp only [checkCompiled, Forall2, CompiledAs, ite_some_eq_none, bne_eq_false_iff_eq, ih, and_assoc]

end IsaLemmas
end ProcSim
