/-!
# How a checker's verdict reads as a proposition

Boolean facts through which the result of an executable checker is read as the statement it stands for.
`ite_some_eq_none` and `ite_none_else_some` peel one clause off a cascade
`if bad₁ then some msg₁ else if bad₂ then … else none`; `fuel_none_iff` reads a checker that walks its indices on
fuel; the `bne_*` lemmas read a test `(x != y) = false` as the corresponding `↔`; `not_or_eq_true` and
`or_eq_true_iff_imp` read a clause `!a || b`, `a || b` as the implication it stands for. (A list of named clauses,
`Spec.Clauses`, is peeled by `Clauses.ok_cons` in `Lemmas/SimCore.lean`.)
-/
namespace ProcSim

theorem ite_some_eq_none {α : Type} {c : Bool} {s : α} {e : Option α} :
    (if c = true then some s else e) = none ↔ c = false ∧ e = none := by
  cases c <;> simp

theorem ite_none_else_some {α : Type} {c : Bool} {s : α} : (if c = true then none else some s) = none ↔ c = true := by
  cases c <;> simp

theorem bne_beq_false {α : Type} [BEq α] [LawfulBEq α] {x : Bool} {u v : α} :
    (x != (u == v)) = false ↔ (x = true ↔ u = v) := by
  cases x <;> simp

theorem bne_decide_false {x : Bool} {p : Prop} [Decidable p] : (x != decide p) = false ↔ (x = true ↔ p) := by
  cases x <;> simp

theorem bne_bool_false {x y : Bool} : (x != y) = false ↔ (x = true ↔ y = true) := by
  cases x <;> cases y <;> simp

/-- a checker that walks `k, k+1, …` on `n` units of fuel and stops at the first index whose clause fails passes
iff the clause holds at every index it visits -/
theorem fuel_none_iff {α : Type} (f : Nat → Nat → Option α) (ok : Nat → Prop) (h0 : ∀ k, f k 0 = none)
    (hs : ∀ k n, f k (n + 1) = none ↔ ok k ∧ f (k + 1) n = none) (k n : Nat) :
    f k n = none ↔ ∀ j, k ≤ j → j < k + n → ok j := by
  induction n generalizing k with
  | zero => exact ⟨fun _ j h1 h2 => absurd h2 (by omega), fun _ => h0 k⟩
  | succ n ih =>
    rw [hs, ih]
    constructor
    · rintro ⟨hk, h⟩ j h1 h2
      rcases Nat.eq_or_lt_of_le h1 with e | h1
      · exact e ▸ hk
      · exact h j h1 (by omega)
    · intro h
      exact ⟨h k (Nat.le_refl k) (by omega), fun j h1 h2 => h j (by omega) (by omega)⟩

theorem not_or_eq_true {a b : Bool} : (!a || b) = true ↔ (a = true → b = true) := by
  cases a <;> simp

theorem or_eq_true_iff_imp {a b : Bool} : (a || b) = true ↔ (a = false → b = true) := by
  cases a <;> simp

end ProcSim
