import ProcSim.Spec.Text
import ProcSim.Lemmas.AMap
import ProcSim.Lemmas.Checker
import ProcSim.Lemmas.Bag
/-!
# The renderer and the checker of C16, read against the diagram (core Lean only)

`writesOf c i` lists the positions that `_cui_to_icu` writes for instruction `i` from the cycle record `c`; both the
renderer (`fillCycles` builds the dict `instrDict i 0 d` from them) and the checker (`hostStrs` prints them) are stated
through it. `diagramOK` says that, per instruction, the counts `occCount c i` over the cycles read `0ᵃ 1ᵇ 0ᶜ`
(`diagramOK_iff`); the dict then has the contiguous keys `range' a b`, which is what `flightRow` needs to succeed.
Per cell, the checker's test and the clause of `C16_Holds` are tied once, in `cellBad_iff`.
-/
namespace ProcSim

attribute [local implicit_reducible] AMap

namespace CliLemmas
open Cli Spec.Text

variable {N : Type}

theorem updateAt_eq {α : Type} (l : List α) (i : Nat) (f : α → α) :
    updateAt l i f = if i < l.length then some (l.modify i f) else none := by
  induction l generalizing i with
  | nil => simp [updateAt]
  | cons x xs ih =>
    cases i with
    | zero => simp [updateAt, List.modify]
    | succ i =>
      simp only [updateAt, ih, List.length_cons, Nat.add_lt_add_iff_right]
      split <;> simp [List.modify]

/-- one unit's share of `writesOf`: the positions `(u, label)` that the entry `(u, hs)` of a cycle record writes
for instruction `i`, one per element of `hs` with index `i` -/
def wOf (u : N) (hs : List HI) (i : Nat) : List (Pos N) :=
  (hs.filter (fun h => h.idx == i)).map (fun h => ({ unit := u, st := h.st } : Pos N))

/-- all positions that `_cui_to_icu` writes for instruction `i` from the cycle record `us`, entry by entry in the
order of the record -/
def writesOf (us : List (N × List HI)) (i : Nat) : List (Pos N) := us.flatMap (fun p => wOf p.1 p.2 i)

/-- the dict `m` after `m[cp] = p` for each `p` of `ws` in turn (the last one stays) -/
def writeAll (cp : Nat) (m : List (Nat × Pos N)) (ws : List (Pos N)) : List (Nat × Pos N) :=
  ws.foldl (fun m p => AMap.set m cp p) m

theorem writesOf_cons (p : N × List HI) (us : List (N × List HI)) (i : Nat) :
    writesOf (p :: us) i = wOf p.1 p.2 i ++ writesOf us i := by
  simp [writesOf]

theorem fillInstrs_spec (cp : Nat) (u : N) (hs : List HI) (icu : List (List (Nat × Pos N)))
    (hidx : ∀ h ∈ hs, h.idx < icu.length) :
    ∃ icu', fillInstrs cp u hs icu = .ok icu' ∧ icu'.length = icu.length ∧
      ∀ i, icu'[i]? = (icu[i]?).map (fun m => writeAll cp m (wOf u hs i)) := by
  induction hs generalizing icu with
  | nil =>
    refine ⟨icu, rfl, rfl, fun i => ?_⟩
    cases icu[i]? <;> simp [wOf, writeAll]
  | cons h hs ih =>
    have hlt : h.idx < icu.length := hidx h (by simp)
    simp only [fillInstrs, updateAt_eq, hlt, if_true]
    obtain ⟨icu', h1, h2, h3⟩ := ih (icu.modify h.idx (fun m => AMap.set m cp { unit := u, st := h.st }))
      (fun x hx => by rw [List.length_modify]; exact hidx x (List.mem_cons_of_mem _ hx))
    refine ⟨icu', h1, by rw [h2, List.length_modify], fun i => ?_⟩
    rw [h3, List.getElem?_modify]
    cases icu[i]? with
    | none => rfl
    | some m =>
      by_cases hi : h.idx = i
      · subst hi
        simp [wOf, writeAll]
      · have : (h.idx == i) = false := by simpa using hi
        simp [wOf, writeAll, hi, this]

theorem fillUnits_spec (cp : Nat) (us : List (N × List HI)) (icu : List (List (Nat × Pos N)))
    (hidx : ∀ p ∈ us, ∀ h ∈ p.2, h.idx < icu.length) :
    ∃ icu', fillUnits cp us icu = .ok icu' ∧ icu'.length = icu.length ∧
      ∀ i, icu'[i]? = (icu[i]?).map (fun m => writeAll cp m (writesOf us i)) := by
  induction us generalizing icu with
  | nil =>
    refine ⟨icu, rfl, rfl, fun i => ?_⟩
    cases icu[i]? <;> simp [writesOf, writeAll]
  | cons p us ih =>
    obtain ⟨u, l⟩ := p
    obtain ⟨icu1, h1, h2, h3⟩ := fillInstrs_spec cp u l icu (hidx (u, l) (by simp))
    obtain ⟨icu2, g1, g2, g3⟩ := ih icu1
      (fun q hq h hh => by rw [h2]; exact hidx q (List.mem_cons_of_mem _ hq) h hh)
    refine ⟨icu2, by simp [fillUnits, h1, g1], by rw [g2, h2], fun i => ?_⟩
    rw [g3, h3, writesOf_cons]
    cases icu[i]? with
    | none => rfl
    | some m => simp [writeAll, List.foldl_append]

/-- `BagValDict.items()` drops only entries that write nothing -/
theorem writesOf_items (c : List (N × List HI)) (i : Nat) : writesOf (Bag.items c) i = writesOf c i := by
  induction c with
  | nil => rfl
  | cons p c ih =>
    obtain ⟨u, l⟩ := p
    unfold Bag.items at ih ⊢
    rw [List.filter_cons]
    cases l with
    | nil => simp [writesOf_cons, wOf, ih]
    | cons h l => simp [writesOf_cons, ih]

/-- the position of instruction `i` in the cycle record `c`: the first one written, which is the only one where
the instruction occurs once -/
def posInCycle (c : List (N × List HI)) (i : Nat) : Option (Pos N) := (writesOf c i).head?

theorem writeAll_of_le_one (cp : Nat) (m : List (Nat × Pos N)) (c : List (N × List HI)) (i : Nat)
    (h : (writesOf c i).length ≤ 1) :
    writeAll cp m (writesOf c i) = match posInCycle c i with
      | none => m
      | some p => AMap.set m cp p := by
  unfold posInCycle
  cases hw : writesOf c i with
  | nil => rfl
  | cons p ps =>
    cases ps with
    | nil => rfl
    | cons q qs => rw [hw] at h; simp at h

/-- the dict `_cui_to_icu` builds for instruction `i` from the cycles `d` numbered from `cp`: cycle number ↦
position, for the cycles in which `i` has one -/
def instrDict (i : Nat) : Nat → List (List (N × List HI)) → List (Nat × Pos N)
  | _, [] => []
  | cp, c :: cs =>
    match posInCycle c i with
    | none => instrDict i (cp + 1) cs
    | some p => (cp, p) :: instrDict i (cp + 1) cs

/-- `_cui_to_icu` from cycle `cp` on appends `instrDict i cp d` to the dict of every instruction `i`. `hone`: an
instruction is written at most once per cycle, so a cycle's writes to its dict are at most one `set`; `hkeys`: the
dicts hold only keys `< cp` so far, so that `set` appends. -/
theorem fillCycles_spec (d : List (List (N × List HI))) (cp : Nat) (icu : List (List (Nat × Pos N)))
    (hidx : ∀ c ∈ d, ∀ p ∈ c, ∀ h ∈ p.2, h.idx < icu.length)
    (hone : ∀ c ∈ d, ∀ i, i < icu.length → (writesOf c i).length ≤ 1)
    (hkeys : ∀ (i : Nat) (m : List (Nat × Pos N)), icu[i]? = some m → ∀ kv ∈ m, kv.1 < cp) :
    ∃ icu', fillCycles cp d icu = .ok icu' ∧ icu'.length = icu.length ∧
      ∀ (i : Nat) (m : List (Nat × Pos N)), icu[i]? = some m → icu'[i]? = some (m ++ instrDict i cp d) := by
  induction d generalizing cp icu with
  | nil => exact ⟨icu, rfl, rfl, fun i m h => by simp [instrDict, h]⟩
  | cons c cs ih =>
    obtain ⟨icu1, h1, h2, h3⟩ := fillUnits_spec cp (Bag.items c) icu
      (fun p hp h hh => hidx c (by simp) p (List.mem_filter.1 hp).1 h hh)
    have hstep : ∀ (i : Nat) (m : List (Nat × Pos N)), icu[i]? = some m →
        icu1[i]? = some (match posInCycle c i with
          | none => m
          | some p => m ++ [(cp, p)]) := by
      intro i m hm
      have hi : i < icu.length := (List.getElem?_eq_some_iff.1 hm).1
      rw [h3, hm, writesOf_items, Option.map_some, writeAll_of_le_one cp m c i (hone c (by simp) i hi)]
      cases posInCycle c i with
      | none => rfl
      | some p =>
        have : AMap.get? m cp = none := by
          refine AMap.get?_eq_none_iff.2 fun hk => ?_
          obtain ⟨kv, hkv, e⟩ := List.mem_map.1 hk
          have := hkeys i m hm kv hkv
          omega
        simp [AMap.set_of_get?_eq_none p this]
    have hkeys1 : ∀ (i : Nat) (m1 : List (Nat × Pos N)), icu1[i]? = some m1 → ∀ kv ∈ m1, kv.1 < cp + 1 := by
      intro i m1 hm1 kv hkv
      have hi : i < icu.length := by rw [← h2]; exact (List.getElem?_eq_some_iff.1 hm1).1
      have hold := hkeys i _ (List.getElem?_eq_getElem hi)
      have hm := hstep i icu[i] (List.getElem?_eq_getElem hi)
      rw [hm1, Option.some.injEq] at hm
      subst hm
      cases hp : posInCycle c i with
      | none =>
        rw [hp] at hkv
        exact Nat.lt_succ_of_lt (hold kv hkv)
      | some p =>
        rw [hp] at hkv
        rcases List.mem_append.1 hkv with hkv | hkv
        · exact Nat.lt_succ_of_lt (hold kv hkv)
        · rw [List.mem_singleton.1 hkv]
          exact Nat.lt_succ_self cp
    obtain ⟨icu2, g1, g2, g3⟩ := ih (cp + 1) icu1
      (fun c' hc' p hp h hh => by rw [h2]; exact hidx c' (List.mem_cons_of_mem _ hc') p hp h hh)
      (fun c' hc' i hi => hone c' (List.mem_cons_of_mem _ hc') i (by rw [h2] at hi; exact hi))
      hkeys1
    refine ⟨icu2, by simp [fillCycles, h1, g1], by rw [g2, h2], fun i m hm => ?_⟩
    rw [g3 i _ (hstep i m hm)]
    cases hp : posInCycle c i with
    | none => simp [instrDict, hp]
    | some p => simp [instrDict, hp]

theorem instrDict_append (i : Nat) (cp : Nat) (x y : List (List (N × List HI))) :
    instrDict i cp (x ++ y) = instrDict i cp x ++ instrDict i (cp + x.length) y := by
  induction x generalizing cp with
  | nil => simp [instrDict]
  | cons c cs ih =>
    simp only [List.cons_append, instrDict, List.length_cons]
    rw [ih (cp + 1), show cp + 1 + cs.length = cp + (cs.length + 1) by omega]
    cases posInCycle c i <;> simp

theorem instrDict_none (i : Nat) (cp : Nat) (x : List (List (N × List HI))) (h : ∀ c ∈ x, posInCycle c i = none) :
    instrDict i cp x = [] := by
  induction x generalizing cp with
  | nil => rfl
  | cons c cs ih =>
    simp only [instrDict, h c (by simp)]
    exact ih _ (fun c' hc' => h c' (List.mem_cons_of_mem _ hc'))

theorem keys_instrDict_all (i : Nat) (cp : Nat) (x : List (List (N × List HI)))
    (h : ∀ c ∈ x, (posInCycle c i).isSome = true) :
    (instrDict i cp x).map (·.1) = List.range' cp x.length := by
  induction x generalizing cp with
  | nil => rfl
  | cons c cs ih =>
    obtain ⟨p, hp⟩ := Option.isSome_iff_exists.1 (h c (by simp))
    simp only [instrDict, hp, List.map_cons, List.length_cons, List.range'_succ]
    rw [ih _ (fun c' hc' => h c' (List.mem_cons_of_mem _ hc'))]

theorem get?_instrDict (i : Nat) (cp : Nat) (d : List (List (N × List HI))) (t : Nat) :
    AMap.get? (instrDict i cp d) t = if t < cp then none else (d[t - cp]?).bind (fun c => posInCycle c i) := by
  induction d generalizing cp with
  | nil => simp [instrDict]
  | cons c cs ih =>
    -- the head cycle answers for `t = cp`; the other keys of the dict are larger
    have hstep : AMap.get? (instrDict i cp (c :: cs)) t =
        if cp = t then posInCycle c i else AMap.get? (instrDict i (cp + 1) cs) t := by
      cases hp : posInCycle c i with
      | some p => simp only [instrDict, hp, AMap.get?_cons]
      | none =>
        simp only [instrDict, hp]
        by_cases e : cp = t
        · rw [if_pos e, ih, if_pos (by omega)]
        · rw [if_neg e]
    rw [hstep, ih]
    by_cases h : cp = t
    · subst h
      rw [if_pos rfl, if_neg (Nat.lt_irrefl cp), Nat.sub_self]
      rfl
    · rw [if_neg h]
      by_cases h1 : t < cp
      · rw [if_pos h1, if_pos (by omega)]
      · rw [if_neg h1, if_neg (by omega), show t - cp = (t - (cp + 1)) + 1 by omega, List.getElem?_cons_succ]

theorem foldl_min_eq (a : Nat) (l : List Nat) (h : ∀ x ∈ l, a ≤ x) : l.foldl min a = a := by
  induction l with
  | nil => rfl
  | cons x xs ih =>
    have : min a x = a := Nat.min_eq_left (h x (by simp))
    simp only [List.foldl_cons, this]
    exact ih (fun y hy => h y (List.mem_cons_of_mem _ hy))

theorem minKey_range' (a b : Nat) (hb : 1 ≤ b) : minKey (List.range' a b) = some a := by
  obtain ⟨b', rfl⟩ : ∃ b', b = b' + 1 := ⟨b - 1, by omega⟩
  rw [List.range'_succ]
  simp only [minKey]
  rw [foldl_min_eq]
  intro x hx
  obtain ⟨j, _, rfl⟩ := List.mem_range'.1 hx
  omega

theorem lookupRange_spec (k : Nat) (U : List (Nat × Pos N)) (s len : Nat)
    (h : ∀ j, j < len → ∃ p, AMap.get? U (s + j) = some p) :
    ∃ ps, lookupRange k U s len = .ok ps ∧ ps.length = len ∧ ∀ j, j < len → AMap.get? U (s + j) = ps[j]? := by
  induction len generalizing s with
  | zero => exact ⟨[], rfl, rfl, fun j hj => by omega⟩
  | succ len ih =>
    obtain ⟨p, hp⟩ := h 0 (by omega)
    rw [Nat.add_zero] at hp
    obtain ⟨ps, h1, h2, h3⟩ := ih (s + 1) (fun j hj => by
      have := h (j + 1) (by omega)
      rwa [show s + (j + 1) = s + 1 + j by omega] at this)
    refine ⟨p :: ps, by simp [lookupRange, hp, h1], by simp [h2], fun j hj => ?_⟩
    cases j with
    | zero => simpa using hp
    | succ j =>
      have := h3 j (by omega)
      rw [show s + 1 + j = s + (j + 1) by omega] at this
      simpa using this

/-- A flight whose keys are the cycles `a, …, a + b - 1` prints as `a` blanks followed by its `b` stops: the row is
built, it has `a + b` cells, cell `t` shows the stop of cycle `t` (blank where there is none), and the row ends exactly
where the flight does. -/
theorem flightRow_spec (sh : N → String) (k : Nat) (U : List (Nat × Pos N)) (a b : Nat) (hb : 1 ≤ b)
    (hk : U.map (·.1) = List.range' a b) :
    ∃ r, flightRow sh k U = .ok r ∧ r.length = a + b ∧
      (∀ t, (r[t]?).getD "" = ((AMap.get? U t).map (Pos.str sh)).getD "") ∧
      (∀ T, r.length ≤ T ↔ ∀ t, T ≤ t → AMap.get? U t = none) := by
  have hlen : U.length = b := by simpa using congrArg List.length hk
  have hin : ∀ t, AMap.get? U t = none ↔ t < a ∨ a + b ≤ t := by
    intro t
    rw [AMap.get?_eq_none_iff, show AMap.keys U = List.range' a b from hk, List.mem_range'_1, Decidable.not_and_iff_not_or_not,
      Nat.not_le, Nat.not_lt]
  -- `ps`: the `b` stops, in cycle order
  obtain ⟨ps, h1, h2, h3⟩ := lookupRange_spec k U a b fun j hj => Option.ne_none_iff_exists'.1 fun hg =>
    ((hin _).1 hg).elim (Nat.not_lt.2 (Nat.le_add_right a j)) (Nat.not_le.2 (Nat.add_lt_add_left hj a))
  -- past the last stop both sides are `none`
  have hps : ∀ j, AMap.get? U (a + j) = ps[j]? := fun j =>
    (Nat.lt_or_ge j b).elim (h3 j) fun hj =>
      ((hin _).2 (.inr (Nat.add_le_add_left hj a))).trans (List.getElem?_eq_none (Nat.le_trans (Nat.le_of_eq h2) hj)).symm
  have hmin : minKey (AMap.keys U) = some a := by
    show minKey (U.map (·.1)) = some a
    rw [hk]
    exact minKey_range' a b hb
  refine ⟨List.replicate a "" ++ ps.map (Pos.str sh), ?_, ?_, fun t => ?_, fun T => ?_⟩
  · simp only [flightRow, hmin, hlen, h1]
  · rw [List.length_append, List.length_replicate, List.length_map, h2]
  · rcases Nat.lt_or_ge t a with hta | hta
    · rw [(hin t).2 (.inl hta), List.getElem?_append_left (by rwa [List.length_replicate]),
        List.getElem?_replicate, if_pos hta]
      rfl
    · obtain ⟨j, rfl⟩ := Nat.exists_eq_add_of_le hta
      rw [hps j, List.getElem?_append_right (by rwa [List.length_replicate]), List.length_replicate,
        Nat.add_sub_cancel_left, List.getElem?_map]
  · rw [List.length_append, List.length_replicate, List.length_map, h2]
    constructor
    · intro hT t ht
      exact (hin t).2 (.inr (Nat.le_trans hT ht))
    · intro h
      -- the last cycle, `a + b'` where `b = b' + 1`, has a stop
      obtain ⟨b', rfl⟩ := Nat.exists_eq_add_of_le' hb
      refine Nat.le_of_not_lt fun hlt => ?_
      exact ((hin (a + b')).1 (h (a + b') (Nat.le_of_lt_succ hlt))).elim
        (Nat.not_lt.2 (Nat.le_add_right a b')) (Nat.not_succ_le_self (a + b'))

/-- how often instruction `i` occurs in the cycle record `c`, counted as `diagramOK` counts it -/
def occCount (c : List (N × List HI)) (i : Nat) : Nat :=
  ((c.map (fun p => p.2.filter (fun h => h.idx == i))).flatten).length

theorem writesOf_length (c : List (N × List HI)) (i : Nat) : (writesOf c i).length = occCount c i := by
  induction c with
  | nil => rfl
  | cons p c ih =>
    unfold occCount at ih ⊢
    simp [writesOf_cons, wOf, ih]

theorem posInCycle_eq_none_iff (c : List (N × List HI)) (i : Nat) : posInCycle c i = none ↔ occCount c i = 0 := by
  unfold posInCycle
  rw [List.head?_eq_none_iff, ← writesOf_length, List.length_eq_zero_iff]

theorem posInCycle_isSome_iff (c : List (N × List HI)) (i : Nat) :
    (posInCycle c i).isSome = true ↔ 1 ≤ occCount c i := by
  have := posInCycle_eq_none_iff c i
  cases h : posInCycle c i with
  | none => simp [(this.1 h)]
  | some p =>
    have : occCount c i ≠ 0 := fun e => by rw [this.2 e] at h; cases h
    simp; omega

theorem le_one_of_mem_zeroOneZero {a b c x : Nat}
    (hx : x ∈ List.replicate a 0 ++ List.replicate b 1 ++ List.replicate c 0) : x ≤ 1 := by
  simp only [List.mem_append, List.mem_replicate] at hx
  rcases hx with (⟨_, rfl⟩ | ⟨_, rfl⟩) | ⟨_, rfl⟩ <;> decide

/-- the test of `diagramOK` on the occurrence counts of one instruction: they read `0ᵃ 1ᵇ 0ᶜ` with `b ≥ 1` -/
theorem zeroOneZero_iff (o : List Nat) :
    (((∀ x ∈ o, x ≤ 1) ∧ o.any (· == 1) = true) ∧
      ∀ x ∈ (o.dropWhile (· == 0)).dropWhile (· == 1), (x == 0) = true) ↔
      ∃ a b c, 1 ≤ b ∧ o = List.replicate a 0 ++ List.replicate b 1 ++ List.replicate c 0 := by
  constructor
  · rintro ⟨⟨_, h1⟩, h0⟩
    obtain ⟨x, hx, hx1⟩ := List.any_eq_true.1 h1
    have hx1 : x = 1 := by simpa using hx1
    subst hx1
    -- cut `o` at the end of the leading zeros and at the end of the following ones
    have ho : o = o.takeWhile (· == 0) ++ ((o.dropWhile (· == 0)).takeWhile (· == 1) ++
        (o.dropWhile (· == 0)).dropWhile (· == 1)) := by
      rw [List.takeWhile_append_dropWhile, List.takeWhile_append_dropWhile]
    have hrep : ∀ {l : List Nat} {v : Nat}, (∀ x ∈ l, (x == v) = true) → l = List.replicate l.length v :=
      fun h => List.eq_replicate_iff.2 ⟨rfl, fun x hx => beq_iff_eq.1 (h x hx)⟩
    have hA := hrep (List.all_eq_true.1 (List.all_takeWhile (p := (· == 0)) (l := o)))
    have hB := hrep (List.all_eq_true.1 (List.all_takeWhile (p := (· == 1)) (l := o.dropWhile (· == 0))))
    have hC := hrep h0
    refine ⟨(o.takeWhile (· == 0)).length, ((o.dropWhile (· == 0)).takeWhile (· == 1)).length,
      ((o.dropWhile (· == 0)).dropWhile (· == 1)).length, ?_, by rw [List.append_assoc, ← hA, ← hB, ← hC]; exact ho⟩
    -- the `1` that occurs lies in neither block of zeros
    rw [ho] at hx
    rcases List.mem_append.1 hx with hx | hx
    · exact absurd (List.all_eq_true.1 List.all_takeWhile 1 hx) (by decide)
    · rcases List.mem_append.1 hx with hx | hx
      · exact List.length_pos_of_mem hx
      · exact absurd (h0 1 hx) (by decide)
  · rintro ⟨a, b, c, hb, rfl⟩
    have h1 : List.dropWhile (· == 0) (List.replicate a 0 ++ List.replicate b 1 ++ List.replicate c 0) =
        List.replicate b 1 ++ List.replicate c 0 := by
      rw [List.append_assoc, List.dropWhile_append_of_pos (fun x hx => by rw [(List.mem_replicate.1 hx).2]; rfl)]
      obtain ⟨b', rfl⟩ : ∃ b', b = b' + 1 := ⟨b - 1, by omega⟩
      rw [List.replicate_succ, List.cons_append, List.dropWhile_cons_of_neg (by decide)]
    have h2 : List.dropWhile (· == 1) (List.replicate b 1 ++ List.replicate c 0) =
        List.dropWhile (· == 1) (List.replicate c 0) :=
      List.dropWhile_append_of_pos (fun x hx => by rw [(List.mem_replicate.1 hx).2]; rfl)
    rw [h1, h2]
    refine ⟨⟨fun x hx => le_one_of_mem_zeroOneZero hx, List.any_eq_true.2
      ⟨1, List.mem_append_left _ (List.mem_append_right _ (List.mem_replicate.2 ⟨by omega, rfl⟩)), rfl⟩⟩,
      fun x hx => ?_⟩
    rw [(List.mem_replicate.1 ((List.dropWhile_sublist _).subset hx)).2]
    rfl

theorem eq_zeroOneZero_of_getElem (o : List Nat) (s m : Nat) (hm : s + m ≤ o.length)
    (h : ∀ t (ht : t < o.length), o[t] = if s ≤ t ∧ t < s + m then 1 else 0) :
    o = List.replicate s 0 ++ List.replicate m 1 ++ List.replicate (o.length - (s + m)) 0 := by
  apply List.ext_getElem
  · simp only [List.length_append, List.length_replicate]
    omega
  · intro t h1 h2
    rw [h t h1]
    simp only [List.getElem_append, List.length_append, List.length_replicate, List.getElem_replicate]
    by_cases h3 : t < s
    · simp [h3, show t < s + m by omega]
    · by_cases h4 : t < s + m
      · simp [h3, h4, show s ≤ t by omega]
      · simp [h4]

theorem diagramOK_iff (d : List (List (N × List HI))) (n : Nat) :
    diagramOK d n = true ↔ (∀ c ∈ d, ∀ p ∈ c, ∀ h ∈ p.2, h.idx < n) ∧
      ∀ i, i < n → ∃ a b c, 1 ≤ b ∧
        d.map (fun c => occCount c i) = List.replicate a 0 ++ List.replicate b 1 ++ List.replicate c 0 := by
  unfold diagramOK
  simp only [Bool.and_eq_true, List.all_eq_true, List.mem_range, decide_eq_true_eq]
  exact and_congr_right fun _ => forall_congr' fun i => imp_congr_right fun _ =>
    zeroOneZero_iff (d.map fun c => occCount c i)

theorem instrDict_keys (d : List (List (N × List HI))) (i a b c : Nat)
    (ho : d.map (fun c => occCount c i) = List.replicate a 0 ++ List.replicate b 1 ++ List.replicate c 0) :
    (instrDict i 0 d).map (·.1) = List.range' a b := by
  obtain ⟨AB, C, rfl, hAB, hC⟩ := List.map_eq_append_iff.1 ho
  obtain ⟨A, B, rfl, hA, hB⟩ := List.map_eq_append_iff.1 hAB
  obtain ⟨hAl, hA0⟩ := List.eq_replicate_iff.1 hA
  obtain ⟨hBl, hB1⟩ := List.eq_replicate_iff.1 hB
  obtain ⟨_, hC0⟩ := List.eq_replicate_iff.1 hC
  rw [List.length_map] at hAl hBl
  rw [instrDict_append, instrDict_append,
    instrDict_none i _ A (fun c hc => (posInCycle_eq_none_iff c i).2 (hA0 _ (List.mem_map.2 ⟨c, hc, rfl⟩))),
    instrDict_none i _ C (fun c hc => (posInCycle_eq_none_iff c i).2 (hC0 _ (List.mem_map.2 ⟨c, hc, rfl⟩))),
    List.nil_append, List.append_nil, Nat.zero_add, hAl, ← hBl]
  exact keys_instrDict_all i _ B (fun c hc => (posInCycle_isSome_iff c i).2 (by
    rw [hB1 _ (List.mem_map.2 ⟨c, hc, rfl⟩)]
    exact Nat.le_refl 1))

theorem mem_writesOf (c : List (N × List HI)) (i : Nat) (p : Pos N) :
    p ∈ writesOf c i ↔ ∃ e ∈ c, ∃ h ∈ e.2, h.idx = i ∧ p = { unit := e.1, st := h.st } := by
  unfold writesOf wOf
  simp only [List.mem_flatMap, List.mem_map, List.mem_filter, beq_iff_eq]
  constructor
  · rintro ⟨e, he, h, ⟨hh, hi⟩, rfl⟩
    exact ⟨e, he, h, hh, hi, rfl⟩
  · rintro ⟨e, he, h, hh, hi, rfl⟩
    exact ⟨e, he, h, ⟨hh, hi⟩, rfl⟩

theorem code_toList (L : Stall) : L.code.toList = [match L with | .U => 'U' | .S => 'S' | .D => 'D'] := by
  cases L <;> decide

theorem str_toList (sh : N → String) (L : Stall) (u : N) :
    (L.code ++ ":" ++ sh u).toList = (match L with | .U => 'U' | .S => 'S' | .D => 'D') :: ':' :: (sh u).toList := by
  have : ":".toList = [':'] := by decide
  simp [String.toList_append, code_toList, this]

theorem str_ne_empty (sh : N → String) (L : Stall) (u : N) : L.code ++ ":" ++ sh u ≠ "" := by
  intro h
  have := congrArg String.toList h
  rw [str_toList] at this
  simp at this

theorem str_inj (sh : N → String) (hsh : Function.Injective sh) (L L' : Stall) (u u' : N)
    (h : L.code ++ ":" ++ sh u = L'.code ++ ":" ++ sh u') : L = L' ∧ u = u' := by
  have := congrArg String.toList h
  rw [str_toList, str_toList] at this
  simp only [List.cons.injEq, true_and] at this
  obtain ⟨h1, h2⟩ := this
  refine ⟨?_, hsh (String.toList_inj.1 h2)⟩
  cases L <;> cases L' <;> first | rfl | (exfalso; revert h1; decide)

theorem lastBusy_cons_le_succ (c : List (N × List HI)) (cs : List (List (N × List HI))) (T : Nat) :
    lastBusy (c :: cs) ≤ T + 1 ↔ lastBusy cs ≤ T := by
  simp only [lastBusy]
  split
  · omega
  · split <;> omega

theorem lastBusy_cons_le_zero (c : List (N × List HI)) (cs : List (List (N × List HI))) :
    lastBusy (c :: cs) ≤ 0 ↔ (Bag.items c).isEmpty = true ∧ lastBusy cs ≤ 0 := by
  simp only [lastBusy]
  split
  · omega
  · split <;> simp_all

theorem lastBusy_le_iff (d : List (List (N × List HI))) (T : Nat) :
    lastBusy d ≤ T ↔ ∀ t c, T ≤ t → d[t]? = some c → (Bag.items c).isEmpty = true := by
  induction d generalizing T with
  | nil => simp [lastBusy]
  | cons c cs ih =>
    cases T with
    | zero =>
      rw [lastBusy_cons_le_zero, ih 0]
      constructor
      · rintro ⟨hc, h⟩ t c' _ hc'
        cases t with
        | zero =>
          rw [List.getElem?_cons_zero, Option.some.injEq] at hc'
          exact hc' ▸ hc
        | succ t => exact h t c' (Nat.zero_le t) hc'
      · intro h
        exact ⟨h 0 c (Nat.le_refl 0) rfl, fun t c' _ hc' => h (t + 1) c' (Nat.zero_le _) hc'⟩
    | succ T =>
      rw [lastBusy_cons_le_succ, ih T]
      constructor
      · intro h t c' ht hc'
        cases t with
        | zero => omega
        | succ t => exact h t c' (by omega) hc'
      · intro h t c' ht hc'
        exact h (t + 1) c' (by omega) hc'

theorem lastTick_le_iff (rows : List (List String)) (T : Nat) :
    lastTick rows ≤ T ↔ ∀ r ∈ rows, r.length ≤ T := by
  induction rows with
  | nil => simp [lastTick]
  | cons r rs ih => simp [lastTick, Nat.max_le, ih]

theorem items_isEmpty_iff (c : List (N × List HI)) (n : Nat) (hidx : ∀ p ∈ c, ∀ h ∈ p.2, h.idx < n) :
    (Bag.items c).isEmpty = true ↔ ∀ i, i < n → posInCycle c i = none := by
  rw [List.isEmpty_iff]
  unfold Bag.items
  rw [List.filter_eq_nil_iff]
  constructor
  · intro h i _
    unfold posInCycle
    rw [List.head?_eq_none_iff]
    cases hw : writesOf c i with
    | nil => rfl
    | cons p ps =>
      exfalso
      have hm : p ∈ writesOf c i := by rw [hw]; simp
      obtain ⟨e, he, x, hx, _, _⟩ := (mem_writesOf c i _).1 hm
      have := h e he
      cases hl : e.2 with
      | nil => rw [hl] at hx; simp at hx
      | cons _ _ => simp [hl] at this
  · intro h e he
    cases hl : e.2 with
    | nil => simp
    | cons x xs =>
      exfalso
      have hx : x ∈ e.2 := by rw [hl]; simp
      have hn := h x.idx (hidx e he x hx)
      unfold posInCycle at hn
      rw [List.head?_eq_none_iff] at hn
      have : ({ unit := e.1, st := x.st } : Pos N) ∈ writesOf c x.idx :=
        (mem_writesOf c _ _).2 ⟨e, he, x, hx, rfl, rfl⟩
      rw [hn] at this; simp at this

theorem flightRows_spec (sh : N → String) (icu : List (List (Nat × Pos N))) (k : Nat)
    (P : Nat → List String → Prop)
    (h : ∀ (j : Nat) (U : List (Nat × Pos N)), icu[j]? = some U → ∃ r, flightRow sh (k + j) U = .ok r ∧ P (k + j) r) :
    ∃ rows, flightRows sh k icu = .ok rows ∧ rows.length = icu.length ∧
      ∀ (j : Nat) (r : List String), rows[j]? = some r → P (k + j) r := by
  induction icu generalizing k with
  | nil => exact ⟨[], rfl, rfl, fun j r hr => by simp at hr⟩
  | cons U us ih =>
    obtain ⟨r, h1, h2⟩ := h 0 U (by simp)
    obtain ⟨rs, g1, g2, g3⟩ := ih (k + 1) (fun j U' hU' => by
      have := h (j + 1) U' (by simpa using hU')
      rwa [show k + (j + 1) = k + 1 + j by omega] at this)
    rw [Nat.add_zero] at h1 h2
    refine ⟨r :: rs, by simp [flightRows, h1, g1], by simp [g2], fun j r' hr' => ?_⟩
    cases j with
    | zero => simp at hr'; subst hr'; exact h2
    | succ j =>
      have := g3 j r' (by simpa using hr')
      rwa [show k + 1 + j = k + (j + 1) by omega] at this

theorem keyRows_length (k : Nat) (rows : List (List String)) : (keyRows k rows).length = rows.length := by
  induction rows generalizing k with
  | nil => rfl
  | cons r rs ih => simp [keyRows, ih]

theorem keyRows_getElem? (k : Nat) (rows : List (List String)) (j : Nat) :
    (keyRows k rows)[j]? = (rows[j]?).map (fun r => ("I" ++ toString (k + j)) :: r) := by
  induction rows generalizing k j with
  | nil => simp [keyRows]
  | cons r rs ih =>
    cases j with
    | zero => simp [keyRows]
    | succ j =>
      simp only [keyRows, List.getElem?_cons_succ, ih]
      rw [show k + 1 + j = k + (j + 1) by omega]

theorem cell_table_key (rows : List (List String)) (j : Nat) (hj : j < rows.length) :
    cell (table rows) (j + 1) 0 = "I" ++ toString (j + 1) := by
  unfold cell table
  rw [List.getElem?_cons_succ, keyRows_getElem?, List.getElem?_eq_getElem hj]
  simp only [Option.map_some, Option.bind_some, List.getElem?_cons_zero, Option.getD_some, Nat.add_comm 1 j]

theorem cell_table (rows : List (List String)) (j t : Nat) :
    cell (table rows) (j + 1) (t + 1) = (((rows[j]?).bind (·[t]?))).getD "" := by
  unfold cell table
  rw [List.getElem?_cons_succ, keyRows_getElem?]
  cases rows[j]? <;> simp

theorem hostStrs_eq (sh : N → String) (c : List (N × List HI)) (i : Nat) :
    hostStrs sh c i = (writesOf c i).map (Pos.str sh) := by
  simp [hostStrs, writesOf, wOf, List.flatMap, List.map_flatten, Function.comp_def, Pos.str]

/-- `posInCycle` of cycle `t` of the diagram; none beyond its end -/
def posInDiagram (d : List (List (N × List HI))) (t i : Nat) : Option (Pos N) := (d[t]?).bind (fun c => posInCycle c i)

/-- the local `hs` of `checkRowCells`: the strings collected for instruction `i` in cycle `t`, none beyond the end
of the diagram -/
def hostStrsAt (sh : N → String) (d : List (List (N × List HI))) (t i : Nat) : List String :=
  match d[t]? with
  | some c => hostStrs sh c i
  | none => []

theorem hostStrsAt_of_le_one (sh : N → String) (d : List (List (N × List HI))) (t i : Nat)
    (hone : ∀ c ∈ d, occCount c i ≤ 1) :
    hostStrsAt sh d t i = ((posInDiagram d t i).map (Pos.str sh)).toList := by
  unfold hostStrsAt posInDiagram
  cases hc : d[t]? with
  | none => rfl
  | some c =>
    have hlen := hone c (List.mem_of_getElem? hc)
    rw [← writesOf_length] at hlen
    simp only [hostStrs_eq, Option.bind_some, posInCycle]
    cases hw : writesOf c i with
    | nil => rfl
    | cons p ps =>
      cases ps with
      | nil => rfl
      | cons q qs => rw [hw] at hlen; simp at hlen

section Hosted
variable [DecidableEq N]

theorem wOf_nil (u : N) (i : Nat) : wOf u [] i = [] := rfl

theorem writesOf_nil (i : Nat) : writesOf ([] : List (N × List HI)) i = [] := rfl

theorem posStr (sh : N → String) (p : Pos N) : Pos.str sh p = p.st.code ++ ":" ++ sh p.unit := rfl

theorem mem_hostStrsAt (sh : N → String) (d : List (List (N × List HI))) (t i : Nat) (s : String)
    (hnd : ∀ c ∈ d, (AMap.keys c).Nodup) :
    s ∈ hostStrsAt sh d t i ↔ ∃ (L : Stall) (u : N), Hosted d t u i L ∧ s = L.code ++ ":" ++ sh u := by
  unfold hostStrsAt Hosted
  cases hc : d[t]? with
  | none => simp
  | some c =>
    have hcd : c ∈ d := List.mem_of_getElem? hc
    simp only [hostStrs_eq, List.mem_map, mem_writesOf, Option.some.injEq, exists_eq_left']
    constructor
    · rintro ⟨_, ⟨e, he, h, hh, hi, rfl⟩, rfl⟩
      obtain ⟨eu, el⟩ := e
      refine ⟨h.st, eu, ?_, rfl⟩
      rw [Bag.get_of_mem (hnd c hcd) he]
      have : h = { idx := i, st := h.st } := by cases h; simp_all
      rw [← this]; exact hh
    · rintro ⟨L, u, hm, rfl⟩
      exact ⟨_, ⟨(u, Bag.get c u), Bag.mem_of_get_ne_nil (List.ne_nil_of_mem hm), _, hm, rfl, rfl⟩, rfl⟩

/-- the local `bad` of `checkRowCells`: the test on the cell `x`, given the strings `hs` collected for it -/
def cellBad (hs : List String) (x : String) : Bool :=
  match hs with
  | [] => x != ""
  | h :: rest => !(x == h && rest.all (· == h))

theorem cellBad_false_iff (hs : List String) (x : String) :
    cellBad hs x = false ↔ (hs = [] ∧ x = "") ∨ (hs ≠ [] ∧ ∀ s ∈ hs, s = x) := by
  cases hs with
  | nil => simp [cellBad]
  | cons h rest =>
    simp only [cellBad, Bool.not_eq_false', Bool.and_eq_true, beq_iff_eq, List.all_eq_true, reduceCtorEq, false_and,
      false_or, ne_eq, not_false_eq_true, true_and, List.mem_cons, forall_eq_or_imp]
    constructor
    · rintro ⟨rfl, h2⟩
      exact ⟨rfl, fun s hs => h2 s hs⟩
    · rintro ⟨rfl, h2⟩
      exact ⟨rfl, fun s hs => h2 s hs⟩

/-- the per-cell clause of `C16_Holds` -/
def CellOK (sh : N → String) (d : List (List (N × List HI))) (x : String) (t i : Nat) : Prop :=
  (∀ (L : Stall) (u : N), x = L.code ++ ":" ++ sh u ↔ Hosted d t u i L) ∧
  (x = "" ↔ ∀ (L : Stall) (u : N), ¬ Hosted d t u i L)

/-- per cell: the checker's test on the strings it collects is the per-cell clause of `C16_Holds`. The strings
`"<L>:<u>"` determine `(L, u)` and are never empty, so "all collected strings equal the cell" says that the cell names
the one host, and "none collected, cell empty" that there is none. -/
theorem cellBad_iff (sh : N → String) (hsh : Function.Injective sh) (d : List (List (N × List HI))) (x : String)
    (t i : Nat) (hnd : ∀ c ∈ d, (AMap.keys c).Nodup) :
    cellBad (hostStrsAt sh d t i) x = false ↔ CellOK sh d x t i := by
  unfold CellOK
  have hmem := fun s => mem_hostStrsAt sh d t i s hnd
  rw [cellBad_false_iff]
  constructor
  · rintro (⟨h0, rfl⟩ | ⟨hne, hall⟩)
    · have hno : ∀ (L : Stall) (u : N), ¬ Hosted d t u i L := by
        intro L u hH
        have := (hmem _).2 ⟨L, u, hH, rfl⟩
        rw [h0] at this; simp at this
      exact ⟨fun L u => ⟨fun h => absurd h.symm (str_ne_empty sh L u), fun h => absurd h (hno L u)⟩,
        ⟨fun _ => hno, fun _ => rfl⟩⟩
    · obtain ⟨s0, hs0⟩ := List.exists_mem_of_ne_nil _ hne
      obtain ⟨L0, u0, hH0, e0⟩ := (hmem s0).1 hs0
      have hx : x = L0.code ++ ":" ++ sh u0 := by rw [← e0]; exact (hall s0 hs0).symm
      refine ⟨fun L u => ⟨fun h => ?_, fun h => ?_⟩, ⟨fun h => ?_, fun h => absurd hH0 (h L0 u0)⟩⟩
      · rw [hx] at h
        obtain ⟨rfl, rfl⟩ := str_inj sh hsh _ _ _ _ h
        exact hH0
      · exact (hall _ ((hmem _).2 ⟨L, u, h, rfl⟩)).symm
      · rw [hx] at h; exact absurd h (str_ne_empty sh L0 u0)
  · rintro ⟨h1, h2⟩
    cases hhs : hostStrsAt sh d t i with
    | nil =>
      refine .inl ⟨rfl, h2.2 ?_⟩
      intro L u hH
      have := (hmem _).2 ⟨L, u, hH, rfl⟩
      rw [hhs] at this; simp at this
    | cons s0 rest =>
      refine .inr ⟨by simp, ?_⟩
      intro s hs
      rw [← hhs] at hs
      obtain ⟨L, u, hH, rfl⟩ := (hmem s).1 hs
      exact ((h1 L u).2 hH).symm

theorem cellOK_of_pos (sh : N → String) (hsh : Function.Injective sh) (d : List (List (N × List HI))) (t i : Nat)
    (hone : ∀ c ∈ d, occCount c i ≤ 1) (hnd : ∀ c ∈ d, (AMap.keys c).Nodup) :
    CellOK sh d (((posInDiagram d t i).map (Pos.str sh)).getD "") t i := by
  rw [← cellBad_iff sh hsh d _ t i hnd, hostStrsAt_of_le_one sh d t i hone]
  cases posInDiagram d t i <;> simp [cellBad]

end Hosted

theorem checkRowCells_succ (sh : N → String) (d : List (List (N × List HI))) (tbl : List (List String))
    (k t fuel : Nat) :
    checkRowCells sh d tbl k t (fuel + 1) =
      if cellBad (hostStrsAt sh d (t - 1) (k - 1)) (cell tbl k t) then
        some s!"cell (I{k}, {t}) is '<label>:<unit>' exactly when the diagram places the instruction there"
      else checkRowCells sh d tbl k (t + 1) fuel := by
  unfold hostStrsAt cellBad
  rw [checkRowCells]
  cases d[t - 1]? with
  | none => rfl
  | some c => cases hostStrs sh c (k - 1) <;> rfl

theorem checkRowCells_none_iff (sh : N → String) (d : List (List (N × List HI))) (tbl : List (List String))
    (k t fuel : Nat) :
    checkRowCells sh d tbl k t fuel = none ↔
      ∀ t', t ≤ t' → t' < t + fuel → cellBad (hostStrsAt sh d (t' - 1) (k - 1)) (cell tbl k t') = false :=
  fuel_none_iff (checkRowCells sh d tbl k) _ (fun _ => rfl)
    (fun t fuel => by rw [checkRowCells_succ, ite_some_eq_none]) t fuel

theorem checkRows_none_iff (sh : N → String) (d : List (List (N × List HI))) (tbl : List (List String))
    (width k fuel : Nat) :
    checkRows sh d tbl width k fuel = none ↔
      ∀ k', k ≤ k' → k' < k + fuel → (cell tbl k' 0 = "I" ++ toString k' ∧
        ∀ t', 1 ≤ t' → t' < 1 + width → cellBad (hostStrsAt sh d (t' - 1) (k' - 1)) (cell tbl k' t') = false) :=
  fuel_none_iff (checkRows sh d tbl width) _ (fun _ => rfl)
    (fun k fuel => by
      rw [checkRows, ite_some_eq_none, bne_eq_false_iff_eq, ← checkRowCells_none_iff, and_assoc]
      cases checkRowCells sh d tbl k 1 width <;> simp) k fuel

theorem foldl_max_ge (tbl : List (List String)) (init : Nat) :
    init ≤ tbl.foldl (fun m r => max m r.length) init ∧
    ∀ r ∈ tbl, r.length ≤ tbl.foldl (fun m r => max m r.length) init := by
  induction tbl generalizing init with
  | nil => simp
  | cons r rs ih =>
    simp only [List.foldl_cons, List.mem_cons, forall_eq_or_imp]
    obtain ⟨h1, h2⟩ := ih (max init r.length)
    exact ⟨by omega, by omega, h2⟩

/-- what the row of instruction `j` must read: cell `t` prints the position in cycle `t` (nothing where there is
none), and the row ends with the last cycle that has one -/
def RowReads (sh : N → String) (d : List (List (N × List HI))) (j : Nat) (r : List String) : Prop :=
  (∀ t, (r[t]?).getD "" = ((posInDiagram d t j).map (Pos.str sh)).getD "") ∧
  (∀ T, r.length ≤ T ↔ ∀ t, T ≤ t → posInDiagram d t j = none)

/-- `_get_sim_rows` on a gap-free diagram raises none of its errors and returns one such row per instruction -/
theorem simRows_spec (sh : N → String) (d : List (List (N × List HI))) (n : Nat) (hok : diagramOK d n = true) :
    ∃ rows, simRows sh d n = .ok rows ∧ rows.length = n ∧ ∀ j, j < n → ∃ r, rows[j]? = some r ∧ RowReads sh d j r := by
  obtain ⟨hidx, hblock⟩ := (diagramOK_iff d n).1 hok
  -- `_cui_to_icu` succeeds; the dict of instruction `j` is `instrDict j 0 d`
  obtain ⟨icu, f1, f2, f3⟩ := fillCycles_spec d 0 (List.replicate n ([] : List (Nat × Pos N)))
    (fun c hc p hp h hh => by rw [List.length_replicate]; exact hidx c hc p hp h hh)
    (fun c hc i hi => by
      rw [List.length_replicate] at hi
      obtain ⟨a, b, c', _, ho⟩ := hblock i hi
      rw [writesOf_length]
      exact le_one_of_mem_zeroOneZero (ho ▸ List.mem_map.2 ⟨c, hc, rfl⟩))
    (fun i m hm kv hkv => by
      rw [List.getElem?_replicate] at hm
      split at hm
      · cases hm; simp at hkv
      · cases hm)
  rw [List.length_replicate] at f2
  have hicu : ∀ (j : Nat) (U : List (Nat × Pos N)), icu[j]? = some U → j < n ∧ U = instrDict j 0 d := by
    intro j U hU
    have hj : j < n := by rw [← f2]; exact (List.getElem?_eq_some_iff.1 hU).1
    have := f3 j [] (by rw [List.getElem?_replicate]; simp [hj])
    rw [hU] at this
    exact ⟨hj, by simpa using this⟩
  -- every flight row succeeds and reads the diagram through the dict
  obtain ⟨rows, r1, r2, r3⟩ := flightRows_spec sh icu 0 (RowReads sh d)
    (fun j U hU => by
      obtain ⟨hj, rfl⟩ := hicu j U hU
      obtain ⟨a, b, c, hb, ho⟩ := hblock j hj
      have hg : ∀ t, AMap.get? (instrDict j 0 d) t = posInDiagram d t j := fun t => by
        rw [get?_instrDict, if_neg (Nat.not_lt_zero t), Nat.sub_zero]
        rfl
      obtain ⟨r, g1, _, g3, g4⟩ := flightRow_spec sh (0 + j) (instrDict j 0 d) a b hb (instrDict_keys d j a b c ho)
      refine ⟨r, g1, fun t => ?_, fun T => ?_⟩
      · rw [g3 t, hg t, Nat.zero_add]
      · rw [g4 T, Nat.zero_add]
        exact forall_congr' fun t => imp_congr_right fun _ => by rw [hg t])
  rw [f2] at r2
  refine ⟨rows, ?_, r2, fun j hj => ?_⟩
  · simp only [simRows, cuiToIcu]
    have f1' : fillCycles 0 d (List.replicate n ([] : List (Nat × Pos N))) = .ok icu := f1
    simp only [f1', r1]
  · have hjr : j < rows.length := by rw [r2]; exact hj
    have := r3 j rows[j] (List.getElem?_eq_getElem hjr)
    rw [Nat.zero_add] at this
    exact ⟨rows[j], List.getElem?_eq_getElem hjr, this⟩

theorem lastTick_eq_lastBusy (sh : N → String) (d : List (List (N × List HI))) (n : Nat)
    (hidx : ∀ c ∈ d, ∀ p ∈ c, ∀ h ∈ p.2, h.idx < n) (rows : List (List String)) (hlen : rows.length = n)
    (hrow : ∀ j, j < n → ∃ r, rows[j]? = some r ∧ RowReads sh d j r) : lastTick rows = lastBusy d := by
  -- the two numbers have the same upper bounds
  suffices h : ∀ T, lastTick rows ≤ T ↔ lastBusy d ≤ T from
    Nat.le_antisymm ((h _).2 (Nat.le_refl _)) ((h _).1 (Nat.le_refl _))
  intro T
  rw [lastTick_le_iff, lastBusy_le_iff]
  constructor
  · intro h t c hT hc
    rw [items_isEmpty_iff c n (hidx c (List.mem_of_getElem? hc))]
    intro i hi
    obtain ⟨r, hr, _, hlast⟩ := hrow i hi
    have := (hlast T).1 (h r (List.mem_of_getElem? hr)) t hT
    simpa [posInDiagram, hc] using this
  · intro h r hr
    obtain ⟨j, hj⟩ := List.getElem?_of_mem hr
    have hjn : j < n := by rw [← hlen]; exact (List.getElem?_eq_some_iff.1 hj).1
    obtain ⟨r', hr', _, hlast⟩ := hrow j hjn
    rw [hj] at hr'
    cases hr'
    rw [hlast T]
    intro t hT
    unfold posInDiagram
    cases hc : d[t]? with
    | none => rfl
    | some c => exact (items_isEmpty_iff c n (hidx c (List.mem_of_getElem? hc))).1 (h t c hT hc) j hjn

end CliLemmas
end ProcSim
