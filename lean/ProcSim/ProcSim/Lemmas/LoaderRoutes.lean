import ProcSim.Lemmas.LoaderGraph
/-!
# The `Bool` checkers of `Spec/Loader.lean` on capability graphs decide the declarative notions

For a capability graph `R : Spec.RG N` whose connections end in listed units (`ConnIn`): `acyclicB`
decides `Acyclic` (a closed walk can be repeated for ever; conversely a walk through `|names| + 1` listed units
repeats a unit); on an acyclic graph `maxRoutes` lists exactly the maximal routes from a unit, so the route checkers
decide `ReachesOut` and `LocksExact`. Two capability graphs with the same units (as sets) and connections, and the same
capabilities and locks on those units (`RGEquivOn`), satisfy the same declarative statements; this moves results
between the loader's working graph, the processor object and the usable part of a description.
-/

namespace ProcSim
namespace Loader
namespace LoaderRoutes
open Spec

variable {N : Type}

section RGfacts
variable (R : RG N)

def ConnIn : Prop := ∀ a b, R.conn a b = true → b ∈ R.names

theorem mem_rg_succs {u v : N} : v ∈ R.succs u ↔ v ∈ R.names ∧ R.conn u v = true := by
  simp [RG.succs, List.mem_filter]

theorem mem_rg_preds {u v : N} : v ∈ R.preds u ↔ v ∈ R.names ∧ R.conn v u = true := by
  simp [RG.preds, List.mem_filter]

theorem walk_cons_cons {a b : N} {l : List N} : R.Walk (a :: b :: l) ↔ R.conn a b = true ∧ R.Walk (b :: l) := Iff.rfl

theorem isRoute_singleton {c u : N} : R.IsRoute c [u] ↔ R.sup u c = true := by
  unfold RG.IsRoute RG.Walk
  simp [WalkR]

theorem isRoute_cons_cons {c u v : N} {l : List N} :
    R.IsRoute c (u :: v :: l) ↔ R.sup u c = true ∧ R.conn u v = true ∧ R.IsRoute c (v :: l) := by
  unfold RG.IsRoute RG.Walk
  simp only [ne_eq, reduceCtorEq, not_false_eq_true, List.mem_cons, true_and, WalkR_cons_cons]
  constructor
  · rintro ⟨h1, h2, h3⟩
    exact ⟨h1 u (Or.inl rfl), h2, fun x hx => h1 x (Or.inr hx), h3⟩
  · rintro ⟨h1, h2, h3, h4⟩
    refine ⟨?_, h2, h4⟩
    intro x hx
    rcases hx with rfl | hx
    · exact h1
    · exact h3 x hx

theorem isMaxRoute_singleton {c u : N} :
    R.IsMaxRoute c [u] ↔ R.sup u c = true ∧ ∀ v ∈ R.names, ¬ (R.conn u v = true ∧ R.sup v c = true) := by
  unfold RG.IsMaxRoute
  rw [isRoute_singleton]
  simp

theorem isMaxRoute_cons_cons {c u v : N} {l : List N} :
    R.IsMaxRoute c (u :: v :: l) ↔ R.sup u c = true ∧ R.conn u v = true ∧ R.IsMaxRoute c (v :: l) := by
  unfold RG.IsMaxRoute
  rw [isRoute_cons_cons, List.getLast?_cons_cons]
  constructor
  · rintro ⟨⟨h1, h2, h3⟩, h4⟩
    exact ⟨h1, h2, h3, h4⟩
  · rintro ⟨h1, h2, h3, h4⟩
    exact ⟨⟨h1, h2, h3⟩, h4⟩

theorem lockCount_cons (t : LockType) (u : N) (r : List N) :
    R.lockCount t (u :: r) = (if R.lock t u then 1 else 0) + R.lockCount t r := by
  unfold RG.lockCount
  by_cases h : R.lock t u = true
  · simp [h]
    omega
  · simp [h]

theorem walk_subset_names (hc : ConnIn R) {r : List N} {u : N} (hu : u ∈ R.names) (hh : r.head? = some u)
    (hw : R.Walk r) : ∀ x ∈ r, x ∈ R.names := by
  obtain ⟨t, rfl⟩ := List.head?_eq_some_iff.1 hh
  intro x hx
  rcases List.mem_cons.1 hx with rfl | hx
  · exact hu
  · exact WalkR.forall_tail hc t _ hw x hx

theorem longWalkFrom_iff : ∀ (k : Nat) (u : N),
    R.longWalkFrom k u = true ↔ ∃ l : List N, l.length = k ∧ R.Walk (u :: l) ∧ ∀ v ∈ l, v ∈ R.names
  | 0, u => ⟨fun _ => ⟨[], rfl, trivial, by intro v hv; cases hv⟩, fun _ => rfl⟩
  | k + 1, u => by
    simp only [RG.longWalkFrom, List.any_eq_true]
    constructor
    · rintro ⟨v, hv, hk⟩
      obtain ⟨l, hl, hw, hn⟩ := (longWalkFrom_iff k v).1 hk
      rw [mem_rg_succs] at hv
      refine ⟨v :: l, by simp [hl], (walk_cons_cons R).2 ⟨hv.2, hw⟩, ?_⟩
      intro x hx
      rcases List.mem_cons.1 hx with rfl | hx
      · exact hv.1
      · exact hn x hx
    · rintro ⟨l, hl, hw, hn⟩
      cases l with
      | nil => simp at hl
      | cons v l =>
        rw [walk_cons_cons] at hw
        exact ⟨v, (mem_rg_succs R).2 ⟨hn v List.mem_cons_self, hw.1⟩,
          (longWalkFrom_iff k v).2 ⟨l, by simpa using hl, hw.2, fun x hx => hn x (List.mem_cons_of_mem _ hx)⟩⟩

theorem walk_next : ∀ (r : List N) (z : N), R.Walk (r ++ [z]) → ∀ x ∈ r, ∃ y, (y ∈ r ∨ y = z) ∧ R.conn x y = true
  | [], _, _, x, hx => by cases hx
  | [a], z, hw, x, hx => by
    simp at hx; subst hx
    exact ⟨z, Or.inr rfl, hw.1⟩
  | a :: b :: t, z, hw, x, hx => by
    have hw' : R.Walk (a :: b :: (t ++ [z])) := hw
    rw [walk_cons_cons] at hw'
    rcases List.mem_cons.1 hx with rfl | hx
    · exact ⟨b, Or.inl (by simp), hw'.1⟩
    · obtain ⟨y, hy, hc⟩ := walk_next (b :: t) z hw'.2 x hx
      refine ⟨y, ?_, hc⟩
      rcases hy with hy | hy
      · exact Or.inl (List.mem_cons_of_mem _ hy)
      · exact Or.inr hy

theorem acyclicB_iff (hc : ConnIn R) : R.acyclicB = true ↔ R.Acyclic := by
  unfold RG.acyclicB
  simp only [List.all_eq_true, Bool.not_eq_true']
  constructor
  · intro hB
    rintro ⟨u, l, hw⟩
    have hw' : R.Walk ((u :: l) ++ [u]) := hw
    have hnext : ∀ x ∈ u :: l, ∃ y ∈ u :: l, R.conn x y = true := by
      intro x hx
      obtain ⟨y, hy, hxy⟩ := walk_next R (u :: l) u hw' x hx
      refine ⟨y, ?_, hxy⟩
      rcases hy with hy | hy
      · exact hy
      · exact hy ▸ List.mem_cons_self
    have hall : ∀ k, ∀ x ∈ u :: l, R.longWalkFrom k x = true := by
      intro k
      induction k with
      | zero => intro x _; rfl
      | succ k ih =>
        intro x hx
        obtain ⟨y, hy, hxy⟩ := hnext x hx
        simp only [RG.longWalkFrom, List.any_eq_true]
        exact ⟨y, (mem_rg_succs R).2 ⟨hc _ _ hxy, hxy⟩, ih y hy⟩
    obtain ⟨y, hy, hxy⟩ := hnext u List.mem_cons_self
    have := hB y (hc _ _ hxy)
    rw [hall _ y hy] at this
    cases this
  · intro ha u hu
    cases h : R.longWalkFrom R.names.length u with
    | false => rfl
    | true =>
      obtain ⟨l, hl, hw, hn⟩ := (longWalkFrom_iff R _ u).1 h
      have hnd := nodup_of_no_closed_walk ha hw
      have hsub : ∀ x ∈ u :: l, x ∈ R.names := by
        intro x hx
        rcases List.mem_cons.1 hx with rfl | hx
        · exact hu
        · exact hn x hx
      have := List.Nodup.length_le_of_subset hnd hsub
      simp at this
      omega

theorem routesFrom_zero (c u : N) : R.routesFrom c 0 u = [[u]] := rfl

theorem routesFrom_succ (c : N) (k : Nat) (u : N) :
    R.routesFrom c (k + 1) u =
      if ((R.succs u).filter (fun v => R.sup v c)).isEmpty then [[u]]
      else ((R.succs u).filter (fun v => R.sup v c)).flatMap (fun v => (R.routesFrom c k v).map (u :: ·)) := rfl

/-- `routesFrom c k u` follows supporting successors for at most `k` steps. It lists the routes from `u` that are
maximal and have at most `k + 1` units, together with the routes the fuel cut off: exactly `k + 1` units, maximal or
not. In an acyclic graph no route has more than `|names|` units (`route_length_le`), so with that fuel only the
first kind occurs (`mem_maxRoutes_iff`). -/
theorem mem_routesFrom (hc : ConnIn R) (c : N) : ∀ (k : Nat) (u : N) (r : List N), R.sup u c = true →
    (r ∈ R.routesFrom c k u ↔ r.head? = some u ∧ R.IsRoute c r ∧
      ((R.IsMaxRoute c r ∧ r.length ≤ k + 1) ∨ r.length = k + 1)) := by
  intro k
  induction k with
  | zero =>
    intro u r hu
    rw [routesFrom_zero, List.mem_singleton]
    constructor
    · rintro rfl
      exact ⟨rfl, (isRoute_singleton R).2 hu, Or.inr rfl⟩
    · rintro ⟨hh, _, hlen⟩
      obtain ⟨t, rfl⟩ := List.head?_eq_some_iff.1 hh
      have : t.length = 0 := by
        rcases hlen with ⟨_, h⟩ | h
        · exact Nat.le_zero.1 (Nat.le_of_succ_le_succ h)
        · exact Nat.succ.inj h
      rw [List.eq_nil_of_length_eq_zero this]
  | succ k ih =>
    intro u r hu
    have hnx : ∀ v, v ∈ (R.succs u).filter (fun v => R.sup v c) ↔
        v ∈ R.names ∧ R.conn u v = true ∧ R.sup v c = true := by
      intro v; rw [List.mem_filter, mem_rg_succs]; exact and_assoc
    -- a route from `u` with a second unit `v` has `v` among the successors the enumeration follows
    have hnext : ∀ {v : N} {t : List N}, R.IsRoute c (u :: v :: t) → v ∈ (R.succs u).filter (fun v => R.sup v c) := by
      intro v t hr
      rw [isRoute_cons_cons] at hr
      exact (hnx v).2 ⟨hc _ _ hr.2.1, hr.2.1, hr.2.2.2.1 v List.mem_cons_self⟩
    rw [routesFrom_succ]
    by_cases hemp : ((R.succs u).filter (fun v => R.sup v c)).isEmpty = true
    · -- no such successor: `[u]` is the only route from `u`, and it is maximal
      rw [if_pos hemp]
      rw [List.isEmpty_iff] at hemp
      simp only [List.mem_singleton]
      constructor
      · rintro rfl
        refine ⟨rfl, (isRoute_singleton R).2 hu, Or.inl ⟨(isMaxRoute_singleton R).2 ⟨hu, fun v hv hcv => ?_⟩, by simp⟩⟩
        have : v ∈ (R.succs u).filter (fun v => R.sup v c) := (hnx v).2 ⟨hv, hcv.1, hcv.2⟩
        rw [hemp] at this
        cases this
      · rintro ⟨hh, hr, _⟩
        obtain ⟨t, rfl⟩ := List.head?_eq_some_iff.1 hh
        cases t with
        | nil => rfl
        | cons v t' =>
          have := hnext hr
          rw [hemp] at this
          cases this
    · -- otherwise the routes from `u` are `u` followed by a listed route from such a successor, with one step less
      rw [if_neg hemp]
      simp only [List.mem_flatMap, List.mem_map]
      constructor
      · rintro ⟨v, hv, r', hr', rfl⟩
        rw [hnx] at hv
        obtain ⟨hh, hr, hd⟩ := (ih v r' hv.2.2).1 hr'
        obtain ⟨t', rfl⟩ := List.head?_eq_some_iff.1 hh
        refine ⟨rfl, (isRoute_cons_cons R).2 ⟨hu, hv.2.1, hr⟩, ?_⟩
        rcases hd with ⟨hm, hl⟩ | hl
        · exact Or.inl ⟨(isMaxRoute_cons_cons R).2 ⟨hu, hv.2.1, hm⟩, Nat.succ_le_succ hl⟩
        · exact Or.inr (congrArg Nat.succ hl)
      · rintro ⟨hh, hr, hd⟩
        obtain ⟨t, rfl⟩ := List.head?_eq_some_iff.1 hh
        cases t with
        | nil =>
          -- `[u]` is not maximal here and has fewer than `k + 2` units
          exfalso
          rcases hd with ⟨hm, _⟩ | hl
          · rw [isMaxRoute_singleton] at hm
            apply hemp
            rw [List.isEmpty_iff, List.eq_nil_iff_forall_not_mem]
            intro v hv
            rw [hnx] at hv
            exact hm.2 v hv.1 hv.2
          · simp at hl
        | cons v t' =>
          have hv := hnext hr
          rw [isRoute_cons_cons] at hr
          refine ⟨v, hv, v :: t', ?_, rfl⟩
          rw [ih v (v :: t') ((hnx v).1 hv).2.2]
          refine ⟨rfl, hr.2.2, ?_⟩
          rcases hd with ⟨hm, hl⟩ | hl
          · rw [isMaxRoute_cons_cons] at hm
            exact Or.inl ⟨hm.2.2, Nat.le_of_succ_le_succ hl⟩
          · exact Or.inr (Nat.succ.inj hl)

theorem route_length_le (hc : ConnIn R) (ha : R.Acyclic) {c u : N} {r : List N} (hu : u ∈ R.names)
    (hr : R.IsRoute c r) (hh : r.head? = some u) : r.length ≤ R.names.length := by
  exact List.Nodup.length_le_of_subset (nodup_of_no_closed_walk ha hr.2.2) (walk_subset_names R hc hu hh hr.2.2)

theorem mem_maxRoutes_iff (hc : ConnIn R) (ha : R.Acyclic) {c u : N} (hu : u ∈ R.names) (hs : R.sup u c = true)
    {r : List N} : r ∈ R.maxRoutes c u ↔ R.IsMaxRoute c r ∧ r.head? = some u := by
  unfold RG.maxRoutes
  rw [mem_routesFrom R hc c _ u r hs]
  constructor
  · rintro ⟨hh, hr, hd⟩
    rcases hd with ⟨hm, _⟩ | hl
    · exact ⟨hm, hh⟩
    · have := route_length_le R hc ha hu hr hh
      omega
  · rintro ⟨hm, hh⟩
    refine ⟨hh, hm.1, Or.inl ⟨hm, ?_⟩⟩
    have := route_length_le R hc ha hu hm.1 hh
    omega

theorem isOut_iff_no_succ {o : N} : R.isOut o = true ↔ ∀ v ∈ R.names, R.conn o v ≠ true := by
  unfold RG.isOut
  rw [List.isEmpty_iff, List.eq_nil_iff_forall_not_mem]
  constructor
  · intro h v hv hcv; exact h v ((mem_rg_succs R).2 ⟨hv, hcv⟩)
  · intro h v hv; rw [mem_rg_succs] at hv; exact h v hv.1 hv.2

theorem isIn_iff_no_pred {o : N} : R.isIn o = true ↔ ∀ v ∈ R.names, R.conn v o ≠ true := by
  unfold RG.isIn
  rw [List.isEmpty_iff, List.eq_nil_iff_forall_not_mem]
  constructor
  · intro h v hv hcv; exact h v ((mem_rg_preds R).2 ⟨hv, hcv⟩)
  · intro h v hv; rw [mem_rg_preds] at hv; exact h v hv.1 hv.2

theorem reachesOutB_iff (hc : ConnIn R) (ha : R.Acyclic) {c u : N} (hu : u ∈ R.names) (hs : R.sup u c = true) :
    R.reachesOutB c u = true ↔ R.ReachesOut c u := by
  unfold RG.reachesOutB RG.ReachesOut
  simp only [List.any_eq_true]
  constructor
  · rintro ⟨r, hr, hl⟩
    rw [mem_maxRoutes_iff R hc ha hu hs] at hr
    split at hl
    next o ho => exact ⟨r, hr.1.1, hr.2, o, ho, hl⟩
    · cases hl
  · rintro ⟨r, hr, hh, o, hl, ho⟩
    refine ⟨r, (mem_maxRoutes_iff R hc ha hu hs).2 ⟨⟨hr, ?_⟩, hh⟩, by rw [hl]; exact ho⟩
    intro o' ho' v hv hcv
    rw [hl] at ho'
    cases ho'
    exact (isOut_iff_no_succ R).1 ho v hv hcv.1

theorem locksExactB_iff (hc : ConnIn R) (ha : R.Acyclic) {c u : N} (hu : u ∈ R.names) (hs : R.sup u c = true) :
    R.locksExactB c u = true ↔ R.LocksExact c u := by
  unfold RG.locksExactB RG.LocksExact
  simp only [List.all_eq_true, Bool.and_eq_true, beq_iff_eq]
  constructor
  · intro h r hm hh
    exact h r ((mem_maxRoutes_iff R hc ha hu hs).2 ⟨hm, hh⟩)
  · intro h r hr
    rw [mem_maxRoutes_iff R hc ha hu hs] at hr
    exact h r hr.1 hr.2

end RGfacts

structure RGEquiv (A B : RG N) : Prop where
  names : ∀ u, u ∈ A.names ↔ u ∈ B.names
  conn : ∀ a b, A.conn a b = B.conn a b
  sup : ∀ u c, A.sup u c = B.sup u c
  lock : ∀ t u, A.lock t u = B.lock t u

/-- as `RGEquiv`, but capabilities and locks are only compared on the listed units (outside them one side may keep
information about units that are not part of the graph) -/
structure RGEquivOn (A B : RG N) : Prop where
  names : ∀ u, u ∈ A.names ↔ u ∈ B.names
  conn : ∀ a b, A.conn a b = B.conn a b
  sup : ∀ u ∈ A.names, ∀ c, A.sup u c = B.sup u c
  lock : ∀ t, ∀ u ∈ A.names, A.lock t u = B.lock t u

section
variable [DecidableEq N]

set_option linter.unusedSectionVars false in
theorem RGEquiv.on {A B : RG N} (h : RGEquiv A B) : RGEquivOn A B :=
  ⟨h.names, h.conn, fun u _ c => h.sup u c, fun t u _ => h.lock t u⟩

end

namespace RGEquivOn

section
variable [DecidableEq N] {A B : RG N}

set_option linter.unusedSectionVars false in
theorem symm (h : RGEquivOn A B) : RGEquivOn B A :=
  ⟨fun u => (h.names u).symm, fun a b => (h.conn a b).symm, fun u hu c => (h.sup u ((h.names u).2 hu) c).symm,
    fun t u hu => (h.lock t u ((h.names u).2 hu)).symm⟩

end

variable {A B : RG N}

theorem conn_eq (h : RGEquivOn A B) : A.conn = B.conn := funext fun a => funext fun b => h.conn a b

theorem walk_iff (h : RGEquivOn A B) (r : List N) : A.Walk r ↔ B.Walk r := by
  unfold RG.Walk; rw [h.conn_eq]

theorem acyclic_iff (h : RGEquivOn A B) : A.Acyclic ↔ B.Acyclic := by
  unfold RG.Acyclic
  simp only [h.walk_iff]

theorem connIn (h : RGEquivOn A B) (hc : ConnIn A) : ConnIn B := by
  intro a b hab
  rw [← h.conn] at hab
  exact (h.names b).1 (hc a b hab)

theorem isRoute_iff (h : RGEquivOn A B) (hc : ConnIn A) {c u : N} (hu : u ∈ A.names) {r : List N}
    (hh : r.head? = some u) : A.IsRoute c r ↔ B.IsRoute c r := by
  unfold RG.IsRoute
  constructor
  · rintro ⟨h1, h2, h3⟩
    have hin := walk_subset_names A hc hu hh h3
    exact ⟨h1, fun x hx => by rw [← h.sup x (hin x hx)]; exact h2 x hx, (h.walk_iff r).1 h3⟩
  · rintro ⟨h1, h2, h3⟩
    have h3' := (h.walk_iff r).2 h3
    have hin := walk_subset_names A hc hu hh h3'
    exact ⟨h1, fun x hx => by rw [h.sup x (hin x hx)]; exact h2 x hx, h3'⟩

theorem isMaxRoute_iff (h : RGEquivOn A B) (hc : ConnIn A) {c u : N} (hu : u ∈ A.names) {r : List N}
    (hh : r.head? = some u) : A.IsMaxRoute c r ↔ B.IsMaxRoute c r := by
  unfold RG.IsMaxRoute
  rw [h.isRoute_iff hc hu hh]
  refine and_congr_right fun _ => ?_
  constructor
  · intro hm x hx v hv
    have hv' := (h.names v).2 hv
    rw [← h.conn, ← h.sup v hv']
    exact hm x hx v hv'
  · intro hm x hx v hv
    rw [h.conn, h.sup v hv]
    exact hm x hx v ((h.names v).1 hv)

theorem lockCount_eq (h : RGEquivOn A B) (t : LockType) {r : List N} (hin : ∀ x ∈ r, x ∈ A.names) :
    A.lockCount t r = B.lockCount t r := by
  unfold RG.lockCount
  congr 1
  apply List.filter_congr
  intro x hx
  exact h.lock t x (hin x hx)

theorem lockCount_route (h : RGEquivOn A B) (hc : ConnIn A) (t : LockType) {c u : N} (hu : u ∈ A.names) {r : List N}
    (hh : r.head? = some u) (hr : A.IsRoute c r) : A.lockCount t r = B.lockCount t r :=
  h.lockCount_eq t (walk_subset_names A hc hu hh hr.2.2)

theorem locksExact_iff (h : RGEquivOn A B) (hc : ConnIn A) {c u : N} (hu : u ∈ A.names) :
    A.LocksExact c u ↔ B.LocksExact c u := by
  unfold RG.LocksExact
  constructor
  · intro hA r hr hh
    have hr' := (h.isMaxRoute_iff hc hu hh).2 hr
    rw [← h.lockCount_route hc .read hu hh hr'.1, ← h.lockCount_route hc .write hu hh hr'.1]
    exact hA r hr' hh
  · intro hB r hr hh
    rw [h.lockCount_route hc .read hu hh hr.1, h.lockCount_route hc .write hu hh hr.1]
    exact hB r ((h.isMaxRoute_iff hc hu hh).1 hr) hh

theorem isOut_iff (h : RGEquivOn A B) (o : N) : A.isOut o = true ↔ B.isOut o = true := by
  rw [isOut_iff_no_succ, isOut_iff_no_succ, h.conn_eq]
  simp only [h.names]

theorem isIn_iff (h : RGEquivOn A B) (o : N) : A.isIn o = true ↔ B.isIn o = true := by
  rw [isIn_iff_no_pred, isIn_iff_no_pred, h.conn_eq]
  simp only [h.names]

theorem reachesOut_iff (h : RGEquivOn A B) (hc : ConnIn A) {c u : N} (hu : u ∈ A.names) :
    A.ReachesOut c u ↔ B.ReachesOut c u := by
  unfold RG.ReachesOut
  constructor
  · rintro ⟨r, hr, hh, o, hl, ho⟩
    exact ⟨r, (h.isRoute_iff hc hu hh).1 hr, hh, o, hl, (h.isOut_iff o).1 ho⟩
  · rintro ⟨r, hr, hh, o, hl, ho⟩
    exact ⟨r, (h.isRoute_iff hc hu hh).2 hr, hh, o, hl, (h.isOut_iff o).2 ho⟩

end RGEquivOn

namespace RGEquiv
variable [DecidableEq N] {A B : RG N}

set_option linter.unusedSectionVars false in
theorem symm (h : RGEquiv A B) : RGEquiv B A :=
  ⟨fun u => (h.names u).symm, fun a b => (h.conn a b).symm, fun u c => (h.sup u c).symm, fun t u => (h.lock t u).symm⟩

theorem isIn_iff (h : RGEquiv A B) (o : N) : A.isIn o = true ↔ B.isIn o = true := h.on.isIn_iff o

theorem connIn_iff (h : RGEquiv A B) : ConnIn A ↔ ConnIn B := ⟨h.on.connIn, h.symm.on.connIn⟩

end RGEquiv

end LoaderRoutes
end Loader
end ProcSim
