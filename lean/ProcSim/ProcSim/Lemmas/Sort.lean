import ProcSim.Model.Basic
/-!
# Facts about `isort` / `insertBy` / `dedup` of `Model/Basic.lean` (core Lean only)

Everything is about an arbitrary Boolean comparison `le : α → α → Bool`; what a statement needs of it (total,
transitive, antisymmetric on the members of the list) is a hypothesis of that statement. `isort` is a stable
insertion sort: its output is a sorted permutation of its input, hence determined by the multiset for a total
order, and sorting commutes with `filter`. Sorting by a name under a strict total order (`Loader.StrictTotal`) gives a
list sorted by that name (`Loader.isort_sorted_of_key`).

The pigeonhole principle for lists is here too: a duplicate-free list all of whose members lie in a list that is not
longer is a permutation of it (`perm_of_nodup_subset_length_le`, `subset_of_nodup_subset_length_le`).
-/
namespace ProcSim
namespace ISort

open List

def TotalB {α : Type} (le : α → α → Bool) : Prop := ∀ x y, le x y = true ∨ le y x = true
def TransB {α : Type} (le : α → α → Bool) : Prop := ∀ x y z, le x y = true → le y z = true → le x z = true
def AntisymmOn {α : Type} (le : α → α → Bool) (l : List α) : Prop :=
  ∀ x, x ∈ l → ∀ y, y ∈ l → le x y = true → le y x = true → x = y

section isort
variable {α : Type} (le : α → α → Bool)

@[simp] theorem insertBy_nil (x : α) : insertBy le x [] = [x] := rfl
@[simp] theorem isort_nil : isort le ([] : List α) = [] := rfl
@[simp] theorem isort_cons (x : α) (l : List α) : isort le (x :: l) = insertBy le x (isort le l) := rfl

theorem insertBy_cons (x y : α) (ys : List α) :
    insertBy le x (y :: ys) = if le x y then x :: y :: ys else y :: insertBy le x ys := rfl

theorem insertBy_perm (x : α) (l : List α) : insertBy le x l ~ x :: l := by
  induction l with
  | nil => exact Perm.refl _
  | cons y ys ih =>
    rw [insertBy_cons]
    split
    · exact Perm.refl _
    · exact (Perm.cons y ih).trans (Perm.swap x y ys)

theorem isort_perm (l : List α) : isort le l ~ l := by
  induction l with
  | nil => exact Perm.refl _
  | cons x xs ih => exact (insertBy_perm le x _).trans (Perm.cons x ih)

theorem mem_insertBy {x y : α} {l : List α} : y ∈ insertBy le x l ↔ y = x ∨ y ∈ l := by
  rw [(insertBy_perm le x l).mem_iff, mem_cons]

@[simp] theorem mem_isort {x : α} {l : List α} : x ∈ isort le l ↔ x ∈ l := (isort_perm le l).mem_iff

@[simp] theorem length_insertBy (x : α) (l : List α) : (insertBy le x l).length = l.length + 1 := by
  rw [(insertBy_perm le x l).length_eq, length_cons]

@[simp] theorem length_isort (l : List α) : (isort le l).length = l.length := (isort_perm le l).length_eq

theorem isort_nodup_iff {l : List α} : (isort le l).Nodup ↔ l.Nodup := (isort_perm le l).nodup_iff

@[simp] theorem isort_eq_nil {l : List α} : isort le l = [] ↔ l = [] := by
  constructor
  · intro h
    have := length_isort le l
    rw [h] at this
    exact length_eq_zero_iff.1 this.symm
  · intro h; subst h; rfl

@[simp] theorem isort_isEmpty (l : List α) : (isort le l).isEmpty = l.isEmpty := (isort_perm le l).isEmpty_eq

variable {le}

theorem insertBy_pairwise (htot : TotalB le) (htr : TransB le) (x : α) {l : List α}
    (h : l.Pairwise (fun a b => le a b = true)) : (insertBy le x l).Pairwise (fun a b => le a b = true) := by
  induction l with
  | nil => exact pairwise_singleton _ _
  | cons y ys ih =>
    rw [insertBy_cons]
    have hy := pairwise_cons.1 h
    by_cases hxy : le x y = true
    · rw [if_pos hxy]
      refine pairwise_cons.2 ⟨?_, h⟩
      intro z hz
      rcases mem_cons.1 hz with rfl | hz
      · exact hxy
      · exact htr _ _ _ hxy (hy.1 z hz)
    · rw [if_neg hxy]
      have hyx : le y x = true := (htot x y).resolve_left hxy
      refine pairwise_cons.2 ⟨?_, ih hy.2⟩
      intro z hz
      rcases (mem_insertBy le).1 hz with rfl | hz
      · exact hyx
      · exact hy.1 z hz

theorem isort_pairwise (htot : TotalB le) (htr : TransB le) (l : List α) :
    (isort le l).Pairwise (fun a b => le a b = true) := by
  induction l with
  | nil => exact Pairwise.nil
  | cons x xs ih => exact insertBy_pairwise htot htr x ih

theorem insertBy_of_forall_le {x : α} {l : List α} (h : ∀ y ∈ l, le x y = true) : insertBy le x l = x :: l := by
  cases l with
  | nil => rfl
  | cons y ys => rw [insertBy_cons, if_pos (h y (mem_cons_self ..))]

theorem isort_of_pairwise {l : List α} (h : l.Pairwise (fun a b => le a b = true)) : isort le l = l := by
  induction l with
  | nil => rfl
  | cons x xs ih =>
    have h' := pairwise_cons.1 h
    rw [isort_cons, ih h'.2, insertBy_of_forall_le h'.1]

theorem isort_idem (htot : TotalB le) (htr : TransB le) (l : List α) : isort le (isort le l) = isort le l :=
  isort_of_pairwise (isort_pairwise htot htr l)

theorem isort_eq_of_perm (htot : TotalB le) (htr : TransB le) {l₁ l₂ : List α} (hanti : AntisymmOn le l₁)
    (hp : l₁ ~ l₂) : isort le l₁ = isort le l₂ := by
  have hp' : isort le l₁ ~ isort le l₂ := ((isort_perm le l₁).trans hp).trans (isort_perm le l₂).symm
  refine hp'.eq_of_pairwise ?_ (isort_pairwise htot htr l₁) (isort_pairwise htot htr l₂)
  intro x y hx hy
  exact hanti x ((mem_isort le).1 hx) y (hp.mem_iff.2 ((mem_isort le).1 hy))

theorem perm_of_isort_eq {l₁ l₂ : List α} (h : isort le l₁ = isort le l₂) : l₁ ~ l₂ :=
  (isort_perm le l₁).symm.trans (h ▸ isort_perm le l₂)

/-- `sorted(x) == sorted(y)` is multiset equality, for a total order -/
theorem isort_eq_iff_perm (htot : TotalB le) (htr : TransB le)
    (hanti : ∀ x y, le x y = true → le y x = true → x = y) {l₁ l₂ : List α} :
    isort le l₁ = isort le l₂ ↔ l₁ ~ l₂ :=
  ⟨perm_of_isort_eq, isort_eq_of_perm htot htr (fun x _ y _ => hanti x y)⟩

theorem insertBy_filter_neg (p : α → Bool) {x : α} (hx : p x = false) (l : List α) :
    (insertBy le x l).filter p = l.filter p := by
  induction l with
  | nil => simp [hx]
  | cons y ys ih =>
    rw [insertBy_cons]
    split
    · rw [filter_cons_of_neg (by simp [hx])]
    · by_cases hy : p y = true
      · rw [filter_cons_of_pos hy, filter_cons_of_pos hy, ih]
      · rw [filter_cons_of_neg hy, filter_cons_of_neg hy, ih]

theorem insertBy_filter_pos (htr : TransB le) (p : α → Bool) {x : α} (hx : p x = true) {l : List α}
    (h : l.Pairwise (fun a b => le a b = true)) :
    (insertBy le x l).filter p = insertBy le x (l.filter p) := by
  induction l with
  | nil => simp [hx]
  | cons y ys ih =>
    have h' := pairwise_cons.1 h
    rw [insertBy_cons]
    by_cases hxy : le x y = true
    · rw [if_pos hxy, filter_cons_of_pos hx]
      have hall : ∀ z ∈ (y :: ys).filter p, le x z = true := by
        intro z hz
        rcases mem_cons.1 (mem_filter.1 hz).1 with rfl | hz'
        · exact hxy
        · exact htr _ _ _ hxy (h'.1 z hz')
      rw [insertBy_of_forall_le hall]
    · rw [if_neg hxy]
      by_cases hy : p y = true
      · rw [filter_cons_of_pos hy, filter_cons_of_pos hy, insertBy_cons, if_neg hxy, ih h'.2]
      · rw [filter_cons_of_neg hy, filter_cons_of_neg hy, ih h'.2]

/-- **stability**: `isort` emits any selection of the elements in the order in which sorting that selection alone
emits them. -/
theorem isort_filter (htot : TotalB le) (htr : TransB le) (p : α → Bool) (l : List α) :
    (isort le l).filter p = isort le (l.filter p) := by
  induction l with
  | nil => rfl
  | cons x xs ih =>
    rw [isort_cons]
    by_cases hx : p x = true
    · rw [filter_cons_of_pos hx, isort_cons, insertBy_filter_pos htr p hx (isort_pairwise htot htr xs), ih]
    · rw [filter_cons_of_neg hx, insertBy_filter_neg p (by simpa using hx), ih]

/-- **stability** in the usual form: the elements equivalent to `a` (`le a b` and `le b a`) leave `isort` in the
order in which they entered. -/
theorem isort_stable (htot : TotalB le) (htr : TransB le) (a : α) (l : List α) :
    (isort le l).filter (fun b => le a b && le b a) = l.filter (fun b => le a b && le b a) := by
  rw [isort_filter htot htr]
  apply isort_of_pairwise
  have : ∀ x ∈ l.filter (fun b => le a b && le b a), ∀ y ∈ l.filter (fun b => le a b && le b a), le x y = true := by
    intro x hx y hy
    have hx' := (mem_filter.1 hx).2
    have hy' := (mem_filter.1 hy).2
    simp only [Bool.and_eq_true] at hx' hy'
    exact htr _ _ _ hx'.2 hy'.1
  exact Pairwise.imp_of_mem (R := fun _ _ => True) (fun {x y} hx hy _ => this x hx y hy)
    (pairwise_of_forall (fun _ _ => trivial))

end isort

section dedup
variable {α : Type} [DecidableEq α]

@[simp] theorem dedup_nil : dedup ([] : List α) = [] := rfl
theorem dedup_cons (x : α) (xs : List α) : dedup (x :: xs) = x :: (dedup xs).filter (· ≠ x) := rfl

@[simp] theorem mem_dedup {a : α} {l : List α} : a ∈ dedup l ↔ a ∈ l := by
  induction l with
  | nil => simp
  | cons x xs ih =>
    rw [dedup_cons, mem_cons, mem_cons, mem_filter, ih]
    by_cases h : a = x <;> simp [h]

theorem dedup_nodup (l : List α) : (dedup l).Nodup := by
  induction l with
  | nil => exact Pairwise.nil
  | cons x xs ih =>
    rw [dedup_cons, nodup_cons]
    refine ⟨?_, Nodup.sublist filter_sublist ih⟩
    intro h
    simpa using (mem_filter.1 h).2

theorem dedup_sublist (l : List α) : (dedup l).Sublist l := by
  induction l with
  | nil => exact Sublist.slnil
  | cons x xs ih => exact Sublist.cons_cons x (filter_sublist.trans ih)

theorem dedup_eq_self {l : List α} (h : l.Nodup) : dedup l = l := by
  induction l with
  | nil => rfl
  | cons x xs ih =>
    have h' := nodup_cons.1 h
    rw [dedup_cons, ih h'.2, filter_eq_self.2]
    intro a ha
    have : a ≠ x := fun e => h'.1 (e ▸ ha)
    simpa using this

theorem dedup_eq_self_iff {l : List α} : dedup l = l ↔ l.Nodup :=
  ⟨fun h => h ▸ dedup_nodup l, dedup_eq_self⟩

end dedup

section nodup
variable {α : Type} [DecidableEq α]

theorem perm_of_nodup_subset_length_le {l₁ l₂ : List α} (h₁ : l₁.Nodup) (hs : ∀ x, x ∈ l₁ → x ∈ l₂)
    (hl : l₂.length ≤ l₁.length) : l₁ ~ l₂ := by
  induction l₁ generalizing l₂ with
  | nil =>
    have : l₂ = [] := length_eq_zero_iff.1 (Nat.le_zero.1 hl)
    subst this
    exact Perm.refl _
  | cons a t ih =>
    have h₁' := nodup_cons.1 h₁
    have ha : a ∈ l₂ := hs a (mem_cons_self ..)
    have hs' : ∀ x, x ∈ t → x ∈ l₂.erase a := by
      intro x hx
      have hne : x ≠ a := fun e => h₁'.1 (e ▸ hx)
      exact (mem_erase_of_ne hne).2 (hs x (mem_cons_of_mem _ hx))
    have hl' : (l₂.erase a).length ≤ t.length := by
      rw [length_erase_of_mem ha]
      simp only [length_cons] at hl
      omega
    exact (Perm.cons a (ih h₁'.2 hs' hl')).trans (perm_cons_erase ha).symm

theorem subset_of_nodup_subset_length_le {l₁ l₂ : List α} (h₁ : l₁.Nodup) (hs : ∀ x, x ∈ l₁ → x ∈ l₂)
    (hl : l₂.length ≤ l₁.length) : ∀ x, x ∈ l₂ → x ∈ l₁ :=
  fun _ hx => (perm_of_nodup_subset_length_le h₁ hs hl).mem_iff.2 hx

end nodup

end ISort

theorem sortByKey_perm {α : Type} (key : α → Nat) (l : List α) : (sortByKey key l).Perm l := ISort.isort_perm _ l

theorem mem_sortByKey {α : Type} {key : α → Nat} {l : List α} {a : α} : a ∈ sortByKey key l ↔ a ∈ l :=
  (sortByKey_perm key l).mem_iff

theorem sortByKey_sorted {α : Type} (key : α → Nat) (l : List α) :
    (sortByKey key l).Pairwise (fun a b => key a ≤ key b) :=
  (ISort.isort_pairwise (fun x y => by simp only [decide_eq_true_eq]; omega)
    (fun x y z => by simp only [decide_eq_true_eq]; omega) l).imp (by simp)

namespace Loader

/-- a strict total order on names (what Python's `str` order is) -/
structure StrictTotal (N : Type) [LT N] : Prop where
  irrefl : ∀ a : N, ¬ a < a
  trans : ∀ a b c : N, a < b → b < c → a < c
  tri : ∀ a b : N, a < b ∨ a = b ∨ b < a

theorem StrictTotal.nat : StrictTotal Nat :=
  ⟨fun a => Nat.lt_irrefl a, fun _ _ _ => Nat.lt_trans, fun a b => Nat.lt_trichotomy a b⟩

theorem StrictTotal.string : StrictTotal String :=
  ⟨String.lt_irrefl, fun _ _ _ => String.lt_trans, fun a b => Std.lt_trichotomy a b⟩

namespace StrictTotal
variable {N : Type} [LT N] (ho : StrictTotal N)
include ho

theorem asymm {a b : N} (h : a < b) : ¬ b < a := fun h' => ho.irrefl a (ho.trans a b a h h')

theorem le_total (a b : N) : ¬ b < a ∨ ¬ a < b := by
  rcases ho.tri a b with h | h | h
  · exact .inl (ho.asymm h)
  · subst h; exact .inl (ho.irrefl a)
  · exact .inr (ho.asymm h)

theorem le_trans {a b c : N} (h1 : ¬ b < a) (h2 : ¬ c < b) : ¬ c < a := by
  intro h
  rcases ho.tri a b with h' | h' | h'
  · exact h2 (ho.trans c a b h h')
  · subst h'; exact h2 h
  · exact h1 h'

theorem le_antisymm {a b : N} (h1 : ¬ b < a) (h2 : ¬ a < b) : a = b := by
  rcases ho.tri a b with h | h | h
  · exact absurd h h2
  · exact h
  · exact absurd h h1

end StrictTotal

/-- Every sort of the loader and of the simulator orders by a name: `le a b` says `¬ key b < key a`. -/
theorem isort_sorted_of_key {α N : Type} [LT N] (ho : StrictTotal N) (key : α → N) {le : α → α → Bool}
    (hle : ∀ a b, le a b = true ↔ ¬ key b < key a) (l : List α) :
    (isort le l).Pairwise (fun a b => ¬ key b < key a) :=
  (ISort.isort_pairwise (fun a b => by simpa only [hle] using ho.le_total (key a) (key b))
    (fun a b c h1 h2 => by rw [hle] at *; exact ho.le_trans h1 h2) l).imp (fun h => (hle _ _).1 h)

end Loader

end ProcSim
