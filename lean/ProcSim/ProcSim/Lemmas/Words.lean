import ProcSim.Spec.Text
import Batteries.Data.String.Lemmas
/-!
# `String.splitOn " "` and `Spec.Text.words` in terms of `List Char`

`String.splitOn` is a loop (`String.splitOnAux`) over raw byte positions; Batteries proves the list reading of
`String.splitToList` only. `splitOn_space` is the analogous statement for the separator `" "`, proved the same
way, with Batteries' `get_of_valid`, `next_of_valid` and `extract_of_valid` for the positions `utf8Len l`.
Consequence used by C15: a message ending in `" " ++ toString n` has the word `toString n`.
-/
-- `String.splitOn` is defined by `String.splitOnAux` and raw-position functions that core has deprecated
set_option linter.deprecated false

namespace String

private theorem sp_get : Pos.Raw.get " " 0 = ' ' := by decide
private theorem sp_next : Pos.Raw.next " " 0 = ⟨1⟩ := by decide
private theorem sp_end : " ".rawEndPos = ⟨1⟩ := by decide

/-- The loop of `splitOn " "` on the text `l ++ m ++ r` at a valid position: `l` is split off (its words are in `acc`,
reversed), `m` is the word being read — it begins at byte `utf8Len l`, the loop stands at `utf8Len l + utf8Len m`,
having matched nothing of the separator (`0`) — and `r` is still to be read. What remains to be produced is what
`List.splitOnP (· == ' ')` produces from `r` with `m` as the pending word. Induction on `r`: a blank closes `m`
(next `l := l ++ m ++ [' ']`, `m := []`), any other character extends it (`m := m ++ [c]`). -/
theorem splitOnAux_space_of_valid (l m r : List Char) (acc : List String) :
    splitOnAux (ofList (l ++ m ++ r)) " " ⟨utf8Len l⟩ ⟨utf8Len l + utf8Len m⟩ 0 acc =
      acc.reverse ++ (List.splitOnPPrepend (· == ' ') r m.reverse).map ofList := by
  induction r generalizing l m acc with
  | nil =>
    unfold splitOnAux
    simp only [List.append_assoc, atEnd_iff, rawEndPos_ofList, utf8Len_append, Pos.Raw.mk_le_mk,
      Nat.add_le_add_iff_left, (by omega : utf8Len m + utf8Len [] ≤ utf8Len m ↔ utf8Len ([] : List Char) = 0),
      utf8Len_eq_zero, List.reverse_cons]
    simpa using extract_of_valid l m []
  | cons c r ih =>
    unfold splitOnAux
    simp only [List.append_assoc, atEnd_iff, rawEndPos_ofList, utf8Len_append, Pos.Raw.mk_le_mk,
      Nat.add_le_add_iff_left, (by omega : utf8Len m + utf8Len (c :: r) ≤ utf8Len m ↔ utf8Len (c :: r) = 0),
      utf8Len_eq_zero, List.reverse_cons, reduceCtorEq, if_false]
    have h1 := get_of_valid (l ++ m) (c :: r)
    have h2 := next_of_valid (l ++ m) c r
    have h3 := extract_of_valid l m (c :: r)
    simp [-ofList_append] at h1 h2 h3
    have h0 : ({ byteIdx := utf8Len l + utf8Len m } : Pos.Raw).unoffsetBy 0 =
        { byteIdx := utf8Len l + utf8Len m } := by
      simp [Pos.Raw.unoffsetBy]
    rw [h1, h2, sp_get, sp_next, sp_end, h0, h2]
    simp only [Pos.Raw.mk_le_mk, Nat.le_refl, if_true]
    split <;> rename_i h
    · have hc : c = ' ' := by simpa using h
      subst hc
      have h4 : ({ byteIdx := utf8Len l + utf8Len m + ' '.utf8Size } : Pos.Raw).unoffsetBy ⟨1⟩ =
          { byteIdx := utf8Len l + utf8Len m } := by
        have : ' '.utf8Size = 1 := by decide
        simp [Pos.Raw.unoffsetBy, this]
      rw [h4, h3]
      -- the instance of the induction hypothesis and the goal differ by re-bracketing only
      have hrec := ih (l ++ m ++ [' ']) [] ((ofList m) :: acc)
      simp only [List.append_assoc, List.cons_append, List.nil_append, List.append_nil, utf8Len_append,
        utf8Len_cons, utf8Len_nil, Nat.add_zero, Nat.zero_add, List.reverse_nil, List.reverse_cons,
        ← Nat.add_assoc] at hrec
      rw [List.splitOnPPrepend_cons_eq_if, if_pos h, List.map_cons, List.reverse_reverse,
        List.splitOnP_eq_splitOnPPrepend]
      exact hrec
    · have hrec := ih l (m ++ [c]) acc
      simp only [List.append_assoc, List.cons_append, List.nil_append, utf8Len_append,
        utf8Len_cons, utf8Len_nil, Nat.zero_add, List.reverse_append, List.reverse_cons, List.reverse_nil,
        ← Nat.add_assoc] at hrec
      rw [List.splitOnPPrepend_cons_eq_if, if_neg h]
      exact hrec

theorem splitOn_space (s : String) :
    s.splitOn " " = (List.splitOnP (· == ' ') s.toList).map ofList := by
  have := splitOnAux_space_of_valid [] [] s.toList []
  simpa [splitOn] using this

end String

namespace ProcSim
namespace WordsLemmas
open Spec.Text

theorem splitOnPPrepend_none {α : Type} (p : α → Bool) (t acc : List α) (h : ∀ x ∈ t, p x = false) :
    List.splitOnPPrepend p t acc = [acc.reverse ++ t] := by
  induction t generalizing acc with
  | nil => simp
  | cons x t ih =>
    have hx : p x = false := h x (by simp)
    rw [List.splitOnPPrepend_cons_eq_if]
    simp only [hx, Bool.false_eq_true, if_false]
    rw [ih _ (fun y hy => h y (by simp [hy]))]
    simp

theorem mem_splitOnPPrepend_last {α : Type} (p : α → Bool) (a : List α) (sep : α) (t acc : List α)
    (hs : p sep = true) (h : ∀ x ∈ t, p x = false) :
    t ∈ List.splitOnPPrepend p (a ++ sep :: t) acc := by
  induction a generalizing acc with
  | nil =>
    rw [List.nil_append, List.splitOnPPrepend_cons_eq_if]
    simp only [hs, if_true]
    rw [List.splitOnP_eq_splitOnPPrepend, splitOnPPrepend_none p t [] h]
    simp
  | cons x a ih =>
    rw [List.cons_append, List.splitOnPPrepend_cons_eq_if]
    split
    · exact List.mem_cons_of_mem _ (ih [])
    · exact ih _

theorem words_contains_of_suffix (s t : String) (a : List Char)
    (hs : s.toList = a ++ ' ' :: t.toList) (ht : ∀ c ∈ t.toList, c ≠ ' ') (hne : t ≠ "") :
    (words s).contains t = true := by
  have hmem : t.toList ∈ List.splitOnP (· == ' ') s.toList := by
    rw [hs, List.splitOnP_eq_splitOnPPrepend]
    exact mem_splitOnPPrepend_last _ a ' ' t.toList [] (by simp) (fun c hc => by simpa using ht c hc)
  rw [List.contains_iff_mem]
  unfold words
  rw [List.mem_filter]
  refine ⟨?_, by simpa using hne⟩
  rw [String.splitOn_space, List.mem_map]
  exact ⟨t.toList, hmem, by simp⟩

theorem toString_nat_no_blank (n : Nat) : ∀ c ∈ (toString n).toList, c ≠ ' ' := by
  intro c hc
  have hc' : c ∈ Nat.toDigits 10 n := by
    simpa [Nat.toString_eq_ofList_toDigits] using hc
  have := Nat.isDigit_of_mem_toDigits (by decide) (by decide) hc'
  intro h; subst h; exact absurd this (by decide)

theorem toString_nat_ne_empty (n : Nat) : toString n ≠ "" := by
  show Nat.repr n ≠ ""
  exact Nat.repr_ne_empty

theorem words_contains_nat (pre : String) (n : Nat) :
    (words (pre ++ " " ++ toString n)).contains (toString n) = true :=
  words_contains_of_suffix _ _ pre.toList (by simp) (toString_nat_no_blank n) (toString_nat_ne_empty n)

end WordsLemmas
end ProcSim
