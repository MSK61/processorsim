import ProcSim.Spec.Sim
import ProcSim.Lemmas.AMap
import ProcSim.Lemmas.Sort
import ProcSim.Lemmas.ListAux
/-!
# Shared foundation for the simulator proofs (C01–C08)

Every step of a cycle is characterised exactly in terms of `Util.get` (flush, fill loop, removal of the moved
instructions, issue, relabelling). The register test `_regs_avail` and the labelling are read off the model without any
invariant: when they grant, refuse or raise (`regsAvail_some_iff`, `regsAvail_none_iff`, `labelOf_clearsOf`,
`labelAll_get`, `labelAll_ok_of`), and which faults a cycle can raise at all (`runCycle_error_cases`). On top of that:
the per-record invariants `RowBase` (needs unique unit names only) and `RowND` (no program index hosted twice),
preserved by every step of the fill phase; the state invariants `BaseInv` / `CoreInv`; `simLoop` characterised by `Steps`
and `SimEnd`, from which the lifting principles to the diagrams of `simulate` follow (`simulate_induction`,
`simulate_rows`, `simulate_adjacent`); and the memory-port accounting used by C05 (`memNew`, `fillCycle_memNew_le_one`).
-/
namespace ProcSim

attribute [local implicit_reducible] AMap

theorem Spec.Clauses.ok_nil : Spec.Clauses.ok [] = true := rfl

theorem Spec.Clauses.ok_cons (s : String) (b : Bool) (cs : Spec.Clauses) :
    Spec.Clauses.ok ((s, b) :: cs) = true ↔ b = true ∧ Spec.Clauses.ok cs = true := by
  simp only [Spec.Clauses.ok, List.all_cons, Bool.and_eq_true]

variable {N : Type} [DecidableEq N]

namespace Util

@[simp] theorem get_nil (n : N) : Util.get ([] : List (N × List HI)) n = [] := rfl

theorem get_cons (k : N) (l : List HI) (u : List (N × List HI)) (n : N) :
    Util.get ((k, l) :: u : List (N × List HI)) n = if k = n then l else Util.get u n := by
  unfold Util.get
  rw [AMap.get?_cons]
  split <;> rfl

theorem get_set (u : Util N) (n n' : N) (l : List HI) : (u.set n l).get n' = if n = n' then l else u.get n' := by
  unfold Util.get Util.set
  rw [AMap.get?_set]
  split <;> rfl

@[simp] theorem get_set_eq (u : Util N) (n : N) (l : List HI) : (u.set n l).get n = l := by
  rw [get_set, if_pos rfl]

theorem get_set_ne (u : Util N) {n n' : N} (l : List HI) (h : n ≠ n') : (u.set n l).get n' = u.get n' := by
  rw [get_set, if_neg h]

theorem keys_set_nodup {u : Util N} (n : N) (l : List HI) (h : (AMap.keys u).Nodup) :
    (AMap.keys (u.set n l)).Nodup := AMap.keys_set_nodup n l h

theorem mem_keys_set {u : Util N} {n n' : N} {l : List HI} :
    n' ∈ AMap.keys (u.set n l) ↔ n' = n ∨ n' ∈ AMap.keys u := AMap.mem_keys_set

theorem mem_keys_of_get_ne_nil {u : Util N} {n : N} (h : u.get n ≠ []) : n ∈ AMap.keys u :=
  Classical.byContradiction fun hk => h (by rw [Util.get, AMap.get?_eq_none_iff.2 hk]; rfl)

theorem get_of_mem {u : Util N} {n : N} {l : List HI} (hn : (AMap.keys u).Nodup)
    (h : (n, l) ∈ AMap.toList u) : u.get n = l := by
  simp [Util.get, AMap.get?_of_mem hn h]

theorem mem_of_get_ne_nil {u : Util N} {n : N} (h : u.get n ≠ []) : (n, u.get n) ∈ AMap.toList u := by
  unfold Util.get at h ⊢
  cases hg : AMap.get? u n with
  | none => simp [hg] at h
  | some v => simpa using AMap.mem_of_get?_eq_some hg

end Util

namespace Queues

theorem get_set (qs : Queues N) (r r' : N) (q : Queue) : (qs.set r q).get r' = if r = r' then q else qs.get r' := by
  unfold Queues.get Queues.set
  rw [AMap.get?_set]
  split <;> rfl

@[simp] theorem get_set_eq (qs : Queues N) (r : N) (q : Queue) : (qs.set r q).get r = q := by
  rw [get_set, if_pos rfl]

theorem get_set_ne (qs : Queues N) {r r' : N} (q : Queue) (h : r ≠ r') : (qs.set r q).get r' = qs.get r' := by
  rw [get_set, if_neg h]

theorem keys_set_nodup {qs : Queues N} (r : N) (q : Queue) (h : (AMap.keys qs).Nodup) :
    (AMap.keys (qs.set r q)).Nodup := AMap.keys_set_nodup r q h

end Queues

theorem flushOutputs_nil (u : Util N) : flushOutputs [] u = u := rfl

theorem flushOutputs_cons (o : N) (outs : List N) (u : Util N) :
    flushOutputs (o :: outs) u = flushOutputs outs (u.set o ((u.get o).filter (fun h => h.st == .D))) := rfl

theorem flushOutputs_get (outs : List N) (u : Util N) (n : N) :
    (flushOutputs outs u).get n = if n ∈ outs then (u.get n).filter (fun h => h.st == .D) else u.get n := by
  induction outs generalizing u with
  | nil => simp [flushOutputs_nil]
  | cons o outs ih =>
    rw [flushOutputs_cons, ih, Util.get_set]
    by_cases h1 : o = n
    · subst h1; simp [List.filter_filter]
    · have h2 : ¬ n = o := fun e => h1 e.symm
      simp [h1, h2]

theorem flushOutputs_keys_nodup (outs : List N) {u : Util N} (h : (AMap.keys u).Nodup) :
    (AMap.keys (flushOutputs outs u)).Nodup := by
  induction outs generalizing u with
  | nil => exact h
  | cons o outs ih => rw [flushOutputs_cons]; exact ih (Util.keys_set_nodup _ _ h)

theorem mem_keys_flushOutputs {outs : List N} {u : Util N} {n : N} :
    n ∈ AMap.keys (flushOutputs outs u) ↔ n ∈ outs ∨ n ∈ AMap.keys u := by
  induction outs generalizing u with
  | nil => simp [flushOutputs_nil]
  | cons o outs ih =>
    rw [flushOutputs_cons, ih, Util.mem_keys_set, List.mem_cons, or_assoc, or_left_comm]

theorem flushOutputs_get_sublist (outs : List N) (u : Util N) (n : N) :
    ((flushOutputs outs u).get n).Sublist (u.get n) := by
  rw [flushOutputs_get]; split
  · exact List.filter_sublist
  · exact List.Sublist.refl _

/-- The candidates `fillLoop` takes (`fillLoop_eq`); `len` is the current length of the destination's content. -/
def fillTaken (prog : List (Instr N)) (d : UnitM N) : List (N × Nat) → Nat → Bool → List (N × Nat)
  | [], _, _ => []
  | c :: cs, len, mem =>
    if len = d.width then []
    else if mem && capIn prog c.2 d.acl then fillTaken prog d cs len mem
    else c :: fillTaken prog d cs (len + 1) (mem || capIn prog c.2 d.acl)

theorem fillTaken_of_full (prog : List (Instr N)) (d : UnitM N) (cs : List (N × Nat)) (len : Nat) (mem : Bool)
    (h : len = d.width) : fillTaken prog d cs len mem = [] := by
  cases cs with
  | nil => rfl
  | cons c cs => rw [fillTaken, if_pos h]

theorem fillTaken_cons_skip {prog : List (Instr N)} {d : UnitM N} {c : N × Nat} {len : Nat} {mem : Bool}
    (cs : List (N × Nat)) (h1 : len ≠ d.width) (h2 : (mem && capIn prog c.2 d.acl) = true) :
    fillTaken prog d (c :: cs) len mem = fillTaken prog d cs len mem := by
  rw [fillTaken, if_neg h1, if_pos h2]

theorem fillTaken_cons_take {prog : List (Instr N)} {d : UnitM N} {c : N × Nat} {len : Nat} {mem : Bool}
    (cs : List (N × Nat)) (h1 : len ≠ d.width) (h2 : (mem && capIn prog c.2 d.acl) = false) :
    fillTaken prog d (c :: cs) len mem = c :: fillTaken prog d cs (len + 1) (mem || capIn prog c.2 d.acl) := by
  rw [fillTaken, if_neg h1, if_neg (h2 ▸ Bool.false_ne_true)]

theorem fillLoop_eq (prog : List (Instr N)) (d : UnitM N) (cs : List (N × Nat)) (cur : List HI) (mem : Bool)
    (moved : List (N × Nat)) :
    fillLoop prog d cs cur mem moved =
      (cur ++ (fillTaken prog d cs cur.length mem).map (fun c => (⟨c.2, .U⟩ : HI)),
       mem || (fillTaken prog d cs cur.length mem).any (fun c => capIn prog c.2 d.acl),
       moved ++ fillTaken prog d cs cur.length mem) := by
  induction cs generalizing cur mem moved with
  | nil => simp [fillLoop, fillTaken]
  | cons c cs ih =>
    rw [fillLoop]
    by_cases h1 : cur.length = d.width
    · rw [fillTaken_of_full prog d _ _ mem h1, if_pos h1]
      simp
    · rw [if_neg h1]
      cases h2 : (mem && capIn prog c.2 d.acl)
      · simp only [h2, Bool.false_eq_true, if_false]
        rw [fillTaken_cons_take cs h1 h2, ih (cur ++ [(⟨c.2, .U⟩ : HI)]) (mem || capIn prog c.2 d.acl) (moved ++ [c])]
        simp [Bool.or_assoc]
      · simp only [h2, if_true]
        rw [fillTaken_cons_skip cs h1 h2]
        exact ih cur mem moved

theorem fillTaken_sublist (prog : List (Instr N)) (d : UnitM N) (cs : List (N × Nat)) (len : Nat) (mem : Bool) :
    (fillTaken prog d cs len mem).Sublist cs := by
  induction cs generalizing len mem with
  | nil => exact List.Sublist.refl _
  | cons c cs ih =>
    by_cases h1 : len = d.width
    · rw [fillTaken_of_full prog d _ len mem h1]
      exact List.nil_sublist _
    · cases h2 : (mem && capIn prog c.2 d.acl)
      · rw [fillTaken_cons_take cs h1 h2]
        exact (ih _ _).cons_cons _
      · rw [fillTaken_cons_skip cs h1 h2]
        exact (ih len mem).cons _

theorem fillTaken_length (prog : List (Instr N)) (d : UnitM N) (cs : List (N × Nat)) (len : Nat) (mem : Bool)
    (h : len ≤ d.width) : len + (fillTaken prog d cs len mem).length ≤ d.width := by
  induction cs generalizing len mem with
  | nil => exact h
  | cons c cs ih =>
    by_cases h1 : len = d.width
    · rw [fillTaken_of_full prog d _ len mem h1]
      exact h
    · cases h2 : (mem && capIn prog c.2 d.acl)
      · rw [fillTaken_cons_take cs h1 h2, List.length_cons, ← Nat.add_assoc, Nat.add_right_comm]
        exact ih (len + 1) _ (Nat.lt_of_le_of_ne h h1)
      · rw [fillTaken_cons_skip cs h1 h2]
        exact ih len mem h

/-- The flag counted as a number: at most one taken candidate needs memory, and none if the flag was already set. -/
theorem fillTaken_mem (prog : List (Instr N)) (d : UnitM N) (cs : List (N × Nat)) (len : Nat) (mem : Bool) :
    mem.toNat + ((fillTaken prog d cs len mem).filter (fun c => capIn prog c.2 d.acl)).length =
      (mem || (fillTaken prog d cs len mem).any (fun c => capIn prog c.2 d.acl)).toNat := by
  induction cs generalizing len mem with
  | nil => simp [fillTaken]
  | cons c cs ih =>
    by_cases h1 : len = d.width
    · rw [fillTaken_of_full prog d _ len mem h1]
      simp
    · cases h2 : (mem && capIn prog c.2 d.acl)
      · rw [fillTaken_cons_take cs h1 h2, List.any_cons, ← Bool.or_assoc,
          ← ih (len + 1) (mem || capIn prog c.2 d.acl), length_filter_cons, toNat_or_of_and_eq_false h2, Nat.add_assoc]
      · rw [fillTaken_cons_skip cs h1 h2]
        exact ih len mem

/-- Why the loop stopped: the unit is full, or every candidate left behind needs the memory port, which is busy. -/
theorem fillTaken_stop (prog : List (Instr N)) (d : UnitM N) (cs : List (N × Nat)) (len : Nat) (mem : Bool) :
    len + (fillTaken prog d cs len mem).length = d.width ∨
    ∀ c ∈ cs, c ∈ fillTaken prog d cs len mem ∨
      (capIn prog c.2 d.acl = true ∧
        (mem || (fillTaken prog d cs len mem).any (fun c => capIn prog c.2 d.acl)) = true) := by
  induction cs generalizing len mem with
  | nil => exact Or.inr (fun _ h => absurd h List.not_mem_nil)
  | cons c cs ih =>
    by_cases h1 : len = d.width
    · rw [fillTaken_of_full prog d _ len mem h1]
      exact Or.inl h1
    · cases h2 : (mem && capIn prog c.2 d.acl)
      · rw [fillTaken_cons_take cs h1 h2]
        rcases ih (len + 1) (mem || capIn prog c.2 d.acl) with h | h
        · exact Or.inl (by rw [List.length_cons, ← Nat.add_assoc, Nat.add_right_comm]; exact h)
        · refine Or.inr (List.forall_mem_cons.2 ⟨Or.inl List.mem_cons_self, fun c' hc' => ?_⟩)
          rcases h c' hc' with h' | h'
          · exact Or.inl (List.mem_cons_of_mem _ h')
          · exact Or.inr ⟨h'.1, by rw [List.any_cons, ← Bool.or_assoc]; exact h'.2⟩
      · rw [fillTaken_cons_skip cs h1 h2]
        rcases ih len mem with h | h
        · exact Or.inl h
        · obtain ⟨hm, hc⟩ := Bool.and_eq_true_iff.1 h2
          exact Or.inr (List.forall_mem_cons.2 ⟨Or.inr ⟨hc, by rw [hm, Bool.true_or]⟩, h⟩)

theorem removeMoved_get (u : Util N) (ms : List (N × Nat)) (n : N) :
    (removeMoved u ms).get n = (u.get n).filter (fun x => !(ms.any (fun m => m.1 == n && m.2 == x.idx))) := by
  induction ms generalizing u with
  | nil =>
    symm; apply List.filter_eq_self.2; intro x _; simp
  | cons m ms ih =>
    obtain ⟨h, i⟩ := m
    unfold removeMoved
    rw [ih, Util.get_set]
    by_cases hn : h = n
    · subst hn
      simp only [if_true, List.filter_filter, List.any_cons, beq_self_eq_true, Bool.true_and]
      apply List.filter_congr
      intro x _
      have e : (x.idx != i) = !(i == x.idx) := by
        show (!(x.idx == i)) = !(i == x.idx)
        rw [show (x.idx == i) = (i == x.idx) from BEq.comm]
      rw [e]
      cases (i == x.idx) <;> cases (ms.any fun m => m.1 == h && m.2 == x.idx) <;> rfl
    · have hb : (h == n) = false := by simp [hn]
      simp only [hn, if_false, List.any_cons, hb, Bool.false_and, Bool.false_or]

theorem removeMoved_keys_nodup {u : Util N} (ms : List (N × Nat)) (h : (AMap.keys u).Nodup) :
    (AMap.keys (removeMoved u ms)).Nodup := by
  induction ms generalizing u with
  | nil => exact h
  | cons m ms ih =>
    obtain ⟨a, i⟩ := m
    unfold removeMoved
    exact ih (Util.keys_set_nodup _ _ h)

theorem mem_keys_removeMoved {u : Util N} {ms : List (N × Nat)} {n : N} :
    n ∈ AMap.keys (removeMoved u ms) ↔ n ∈ ms.map (·.1) ∨ n ∈ AMap.keys u := by
  induction ms generalizing u with
  | nil => simp [removeMoved]
  | cons m ms ih =>
    obtain ⟨a, i⟩ := m
    unfold removeMoved
    rw [ih, Util.mem_keys_set, List.map_cons, List.mem_cons, or_assoc, or_left_comm]

theorem removeMoved_get_sublist (u : Util N) (ms : List (N × Nat)) (n : N) :
    ((removeMoved u ms).get n).Sublist (u.get n) := by
  rw [removeMoved_get]; exact List.filter_sublist

theorem capIn_eq_true {prog : List (Instr N)} {i : Nat} {caps : List N} (h : capIn prog i caps = true) :
    ∃ ins, prog[i]? = some ins ∧ ins.cap ∈ caps := by
  unfold capIn at h
  cases hp : prog[i]? with
  | none => simp [hp] at h
  | some ins => exact ⟨ins, rfl, by simpa [hp] using h⟩
theorem mem_candsOf {prog : List (Instr N)} {d : UnitM N} {u : Util N} {host : N} {c : N × Nat} :
    c ∈ candsOf prog d u host ↔ c.1 = host ∧ ∃ h ∈ u.get host, validCand prog d h = true ∧ h.idx = c.2 := by
  obtain ⟨a, i⟩ := c
  simp only [candsOf, List.mem_map, List.mem_filter, Prod.mk.injEq]
  constructor
  · rintro ⟨h, ⟨hm, hv⟩, rfl, rfl⟩; exact ⟨rfl, h, hm, hv, rfl⟩
  · rintro ⟨rfl, h, hm, hv, rfl⟩; exact ⟨h, ⟨hm, hv⟩, rfl, rfl⟩

theorem candidates_perm (prog : List (Instr N)) (d : FuncU N) (u : Util N) :
    (candidates prog d u).Perm (d.preds.flatMap (candsOf prog d.model u)) := sortByKey_perm _ _

theorem mem_candidates {prog : List (Instr N)} {d : FuncU N} {u : Util N} {c : N × Nat} :
    c ∈ candidates prog d u ↔
      c.1 ∈ d.preds ∧ ∃ h ∈ u.get c.1, validCand prog d.model h = true ∧ h.idx = c.2 := by
  rw [(candidates_perm prog d u).mem_iff, List.mem_flatMap]
  constructor
  · rintro ⟨host, hh, hc⟩
    have := mem_candsOf.1 hc
    rw [this.1]; exact ⟨hh, this.2⟩
  · rintro ⟨hh, hc⟩
    exact ⟨c.1, hh, mem_candsOf.2 ⟨rfl, hc⟩⟩

theorem candidates_sorted (prog : List (Instr N)) (d : FuncU N) (u : Util N) :
    (candidates prog d u).Pairwise (fun a b => a.2 ≤ b.2) := sortByKey_sorted _ _

/-- the `(host, index)` pairs destination `d` takes from record `u` when the memory flag is `mem` -/
def unitTaken (prog : List (Instr N)) (d : FuncU N) (u : Util N) (mem : Bool) : List (N × Nat) :=
  fillTaken prog d.model (candidates prog d u) (u.get d.model.name).length mem

theorem fillUnit_fst (prog : List (Instr N)) (d : FuncU N) (u : Util N) (mem : Bool) :
    (fillUnit prog d u mem).1 =
      removeMoved (u.set d.model.name
        (u.get d.model.name ++ (unitTaken prog d u mem).map (fun c => (⟨c.2, .U⟩ : HI)))) (unitTaken prog d u mem) := by
  simp [fillUnit, fillLoop_eq, unitTaken]

theorem fillUnit_snd (prog : List (Instr N)) (d : FuncU N) (u : Util N) (mem : Bool) :
    (fillUnit prog d u mem).2 = (mem || (unitTaken prog d u mem).any (fun c => capIn prog c.2 d.model.acl)) := by
  simp [fillUnit, fillLoop_eq, unitTaken]

theorem fillUnit_get (prog : List (Instr N)) (d : FuncU N) (u : Util N) (mem : Bool) (n : N) :
    (fillUnit prog d u mem).1.get n =
      (if d.model.name = n then u.get n ++ (unitTaken prog d u mem).map (fun c => (⟨c.2, .U⟩ : HI)) else u.get n).filter
        (fun x => !((unitTaken prog d u mem).any (fun m => m.1 == n && m.2 == x.idx))) := by
  rw [fillUnit_fst, removeMoved_get, Util.get_set]
  by_cases h : d.model.name = n
  · subst h; simp
  · simp [h]

theorem mem_unitTaken {prog : List (Instr N)} {d : FuncU N} {u : Util N} {mem : Bool} {c : N × Nat}
    (h : c ∈ unitTaken prog d u mem) :
    c.1 ∈ d.preds ∧ ∃ x ∈ u.get c.1, validCand prog d.model x = true ∧ x.idx = c.2 :=
  mem_candidates.1 ((fillTaken_sublist _ _ _ _ _).subset h)

theorem fillUnit_get_of_ne (prog : List (Instr N)) (d : FuncU N) (u : Util N) (mem : Bool) {n : N}
    (h : d.model.name ≠ n) :
    (fillUnit prog d u mem).1.get n =
      (u.get n).filter (fun x => !((unitTaken prog d u mem).any (fun m => m.1 == n && m.2 == x.idx))) := by
  rw [fillUnit_get]; simp [h]

theorem fillUnit_get_self (prog : List (Instr N)) (d : FuncU N) (u : Util N) (mem : Bool)
    (h : d.model.name ∉ d.preds) :
    (fillUnit prog d u mem).1.get d.model.name =
      u.get d.model.name ++ (unitTaken prog d u mem).map (fun c => (⟨c.2, .U⟩ : HI)) := by
  rw [fillUnit_get]
  simp only [if_true]
  apply List.filter_eq_self.2
  intro x _
  simp only [Bool.not_eq_true', List.any_eq_false, Bool.and_eq_true, beq_iff_eq, not_and]
  intro c hc e
  exact absurd (e ▸ (mem_unitTaken hc).1) h

theorem fillUnit_get_sublist (prog : List (Instr N)) (d : FuncU N) (u : Util N) (mem : Bool) (n : N) :
    ((fillUnit prog d u mem).1.get n).Sublist
      (if d.model.name = n then u.get n ++ (unitTaken prog d u mem).map (fun c => (⟨c.2, .U⟩ : HI)) else u.get n) := by
  rw [fillUnit_get]; exact List.filter_sublist

theorem fillUnit_keys_nodup (prog : List (Instr N)) (d : FuncU N) {u : Util N} (mem : Bool)
    (h : (AMap.keys u).Nodup) : (AMap.keys (fillUnit prog d u mem).1).Nodup := by
  rw [fillUnit_fst]; exact removeMoved_keys_nodup _ (Util.keys_set_nodup _ _ h)

theorem mem_keys_fillUnit {prog : List (Instr N)} {d : FuncU N} {u : Util N} {mem : Bool} {n : N}
    (h : n ∈ AMap.keys (fillUnit prog d u mem).1) : n = d.model.name ∨ n ∈ d.preds ∨ n ∈ AMap.keys u := by
  rw [fillUnit_fst, mem_keys_removeMoved, Util.mem_keys_set] at h
  rcases h with h | h | h
  · obtain ⟨c, hc, rfl⟩ := List.mem_map.1 h
    exact Or.inr (Or.inl (mem_unitTaken hc).1)
  · exact Or.inl h
  · exact Or.inr (Or.inr h)

theorem fillUnit_length_self (prog : List (Instr N)) (d : FuncU N) (u : Util N) (mem : Bool)
    (h : (u.get d.model.name).length ≤ d.model.width) :
    ((fillUnit prog d u mem).1.get d.model.name).length ≤ d.model.width := by
  have h1 := (fillUnit_get_sublist prog d u mem d.model.name).length_le
  simp only [if_true, List.length_append, List.length_map] at h1
  have h2 := fillTaken_length prog d.model (candidates prog d u) _ mem h
  unfold unitTaken at h1
  omega

theorem fillUnit_mem (prog : List (Instr N)) (d : FuncU N) (u : Util N) (mem : Bool) :
    mem.toNat + ((unitTaken prog d u mem).filter (fun c => capIn prog c.2 d.model.acl)).length =
      (fillUnit prog d u mem).2.toNat := by
  rw [fillUnit_snd]; exact fillTaken_mem _ _ _ _ _

theorem fillDests_cons (prog : List (Instr N)) (d : FuncU N) (ds : List (FuncU N)) (u : Util N) (mem : Bool) :
    fillDests prog (d :: ds) u mem = fillDests prog ds (fillUnit prog d u mem).1 (fillUnit prog d u mem).2 := rfl

theorem fillDests_append (prog : List (Instr N)) (a b : List (FuncU N)) (u : Util N) (mem : Bool) :
    fillDests prog (a ++ b) u mem = fillDests prog b (fillDests prog a u mem).1 (fillDests prog a u mem).2 := by
  induction a generalizing u mem with
  | nil => rfl
  | cons d a ih => simp only [List.cons_append, fillDests_cons, ih]

/-- The invariant may mention the destinations filled so far, and a step may use where its destination stands in
`all`. -/
theorem fillDests_induction_prefix (prog : List (Instr N)) (P : List (FuncU N) → Util N → Bool → Prop)
    (all : List (FuncU N))
    (hstep : ∀ done d rest u mem, all = done ++ d :: rest → P done u mem →
      P (done ++ [d]) (fillUnit prog d u mem).1 (fillUnit prog d u mem).2) :
    ∀ (ds done : List (FuncU N)) (u : Util N) (mem : Bool), all = done ++ ds → P done u mem →
      P all (fillDests prog ds u mem).1 (fillDests prog ds u mem).2
  | [], done, u, mem, hall, h => by
    rw [List.append_nil] at hall
    rw [hall]; exact h
  | d :: ds, done, u, mem, hall, h => by
    unfold fillDests
    exact fillDests_induction_prefix prog P all hstep ds (done ++ [d]) _ _ (by rw [hall, List.append_assoc]; rfl)
      (hstep done d ds u mem hall h)

theorem fillDests_induction (prog : List (Instr N)) (P : Util N → Bool → Prop) (ds : List (FuncU N))
    (hstep : ∀ d ∈ ds, ∀ u mem, P u mem → P (fillUnit prog d u mem).1 (fillUnit prog d u mem).2)
    (u : Util N) (mem : Bool) (h : P u mem) :
    P (fillDests prog ds u mem).1 (fillDests prog ds u mem).2 :=
  fillDests_induction_prefix prog (fun _ => P) ds
    (fun done d rest u mem hall h => hstep d (by rw [hall]; exact List.mem_append_right _ List.mem_cons_self) u mem h)
    ds [] u mem rfl h

theorem moveFlights_induction (p : Proc N) (prog : List (Instr N)) (P : Util N → Bool → Prop) (u : Util N)
    (h0 : P (flushOutputs p.outBoundary u) false)
    (hstep : ∀ d ∈ p.dests, ∀ u mem, P u mem → P (fillUnit prog d u mem).1 (fillUnit prog d u mem).2) :
    P (moveFlights p prog u).1 (moveFlights p prog u).2 :=
  fillDests_induction prog P p.dests hstep _ _ h0

def portUsable (cap : N) (u : Util N) (mem : Bool) (port : UnitM N) : Prop :=
  cap ∈ port.caps ∧ (mem && decide (cap ∈ port.acl)) = false ∧ (u.get port.name).length ≠ port.width

instance (cap : N) (u : Util N) (mem : Bool) (port : UnitM N) : Decidable (portUsable cap u mem port) :=
  inferInstanceAs (Decidable (_ ∧ _ ∧ _))

theorem tryPorts_cons (cap : N) (i : Nat) (q : UnitM N) (qs : List (UnitM N)) (u : Util N) (mem : Bool) :
    tryPorts cap i (q :: qs) u mem =
      if portUsable cap u mem q then some (u.set q.name (u.get q.name ++ [⟨i, .U⟩]), mem || decide (cap ∈ q.acl))
      else tryPorts cap i qs u mem := by
  have hu : portUsable cap u mem q ↔ cap ∈ q.caps ∧
      ¬ ((mem && decide (cap ∈ q.acl)) || decide ((u.get q.name).length = q.width)) = true := by
    simp only [portUsable, Bool.or_eq_true, decide_eq_true_eq, not_or, Bool.not_eq_true, ne_eq]
  rw [tryPorts]
  by_cases h1 : cap ∈ q.caps
  · by_cases h2 : ((mem && decide (cap ∈ q.acl)) || decide ((u.get q.name).length = q.width)) = true
    · rw [if_pos h1, if_pos h2, if_neg (fun h => (hu.1 h).2 h2)]
    · rw [if_pos h1, if_neg h2, if_pos (hu.2 ⟨h1, h2⟩)]
  · rw [if_neg h1, if_neg (fun h => h1 h.1)]

theorem tryPorts_eq_some {cap : N} {i : Nat} {ports : List (UnitM N)} {u : Util N} {mem : Bool}
    {r : Util N × Bool} (h : tryPorts cap i ports u mem = some r) :
    ∃ pre port post, ports = pre ++ port :: post ∧ portUsable cap u mem port ∧
      (∀ q ∈ pre, ¬ portUsable cap u mem q) ∧
      r = (u.set port.name (u.get port.name ++ [⟨i, .U⟩]), mem || decide (cap ∈ port.acl)) := by
  induction ports with
  | nil => cases h
  | cons q qs ih =>
    rw [tryPorts_cons] at h
    split at h
    · next hq => exact ⟨[], q, qs, rfl, hq, fun _ h => absurd h List.not_mem_nil, (Option.some.inj h).symm⟩
    · next hq =>
      obtain ⟨pre, port, post, e, hu, hpre, hr⟩ := ih h
      exact ⟨q :: pre, port, post, by rw [e]; rfl, hu, List.forall_mem_cons.2 ⟨hq, hpre⟩, hr⟩

theorem tryPorts_eq_none_iff {cap : N} {i : Nat} {ports : List (UnitM N)} {u : Util N} {mem : Bool} :
    tryPorts cap i ports u mem = none ↔ ∀ q ∈ ports, ¬ portUsable cap u mem q := by
  induction ports with
  | nil => exact ⟨fun _ _ h => absurd h List.not_mem_nil, fun _ => rfl⟩
  | cons q qs ih =>
    rw [tryPorts_cons, List.forall_mem_cons]
    split
    · next hq => exact ⟨fun e => (nomatch e), fun e => absurd hq e.1⟩
    · next hq => rw [ih]; exact (and_iff_right hq).symm

theorem issueLoop_entered (ports : List (UnitM N)) (l : List (Instr N)) (u : Util N) (mem : Bool) (e : Nat) :
    e ≤ (issueLoop ports l u mem e).2 ∧ (issueLoop ports l u mem e).2 ≤ e + l.length := by
  induction l generalizing u mem e with
  | nil => exact ⟨Nat.le_refl e, Nat.le_refl e⟩
  | cons ins rest ih =>
    rw [issueLoop]
    cases tryPorts ins.cap e ports u mem with
    | none => exact ⟨Nat.le_refl e, Nat.le_add_right e _⟩
    | some r =>
      have := ih r.1 r.2 (e + 1)
      rw [List.length_cons]
      exact ⟨Nat.le_of_succ_le this.1, by rw [← Nat.add_assoc, Nat.add_right_comm]; exact this.2⟩

/-- Invariant principle for the issue loop: a step issues `prog[e]` into the first usable port; at the end the program
is exhausted or no port takes the next instruction. -/
theorem issueLoop_induction (prog : List (Instr N)) (ports : List (UnitM N)) (P : Util N → Bool → Nat → Prop)
    (hstep : ∀ u mem e ins pre port post, P u mem e → prog[e]? = some ins → ports = pre ++ port :: post →
      portUsable ins.cap u mem port → (∀ q ∈ pre, ¬ portUsable ins.cap u mem q) →
      P (u.set port.name (u.get port.name ++ [⟨e, .U⟩])) (mem || decide (ins.cap ∈ port.acl)) (e + 1))
    (u : Util N) (mem : Bool) (e : Nat) (h : P u mem e) :
    ∃ mem', P (issueLoop ports (prog.drop e) u mem e).1 mem' (issueLoop ports (prog.drop e) u mem e).2 ∧
      ∀ ins, prog[(issueLoop ports (prog.drop e) u mem e).2]? = some ins →
        tryPorts ins.cap (issueLoop ports (prog.drop e) u mem e).2 ports
          (issueLoop ports (prog.drop e) u mem e).1 mem' = none := by
  generalize hl : prog.drop e = l
  induction l generalizing u mem e with
  | nil =>
    refine ⟨mem, h, ?_⟩
    intro ins hins
    simp only [issueLoop] at hins
    have : prog.length ≤ e := List.drop_eq_nil_iff.1 hl
    rw [List.getElem?_eq_none this] at hins; cases hins
  | cons ins rest ih =>
    obtain ⟨hins, hrest⟩ := drop_eq_cons hl
    unfold issueLoop
    cases ht : tryPorts ins.cap e ports u mem with
    | none =>
      refine ⟨mem, h, ?_⟩
      intro ins' hins'
      simp only at hins'
      rw [hins] at hins'; cases hins'
      exact ht
    | some r =>
      obtain ⟨pre, port, post, hp, hu, hpre, hr⟩ := tryPorts_eq_some ht
      subst hr
      exact ih _ _ (e + 1) (hstep u mem e ins pre port post h hins hp hu hpre) hrest

theorem fillUnit_get_of_not_involved (prog : List (Instr N)) (d : FuncU N) (u : Util N) (mem : Bool) {n : N}
    (h1 : d.model.name ≠ n) (h2 : n ∉ d.preds) : (fillUnit prog d u mem).1.get n = u.get n := by
  rw [fillUnit_get_of_ne prog d u mem h1]
  apply List.filter_eq_self.2
  intro x _
  simp only [Bool.not_eq_true', List.any_eq_false, Bool.and_eq_true, beq_iff_eq, not_and]
  intro c hc e
  exact absurd (e ▸ (mem_unitTaken hc).1) h2

theorem fillDests_get_of_not_involved (prog : List (Instr N)) (ds : List (FuncU N)) (u : Util N) (mem : Bool) {n : N}
    (h : ∀ d ∈ ds, d.model.name ≠ n ∧ n ∉ d.preds) : (fillDests prog ds u mem).1.get n = u.get n := by
  refine fillDests_induction prog (fun u' _ => u'.get n = u.get n) ds ?_ u mem rfl
  intro d hd u' mem' hu'
  rw [fillUnit_get_of_not_involved prog d u' mem' (h d hd).1 (h d hd).2, hu']

theorem moveFlights_get_of_not_involved (p : Proc N) (prog : List (Instr N)) (u : Util N) {n : N}
    (h0 : n ∉ p.outBoundary) (h1 : ∀ d ∈ p.dests, d.model.name ≠ n ∧ n ∉ d.preds) :
    (moveFlights p prog u).1.get n = u.get n := by
  rw [moveFlights, fillDests_get_of_not_involved prog p.dests _ false h1, flushOutputs_get, if_neg h0]

theorem issueLoop_get_of_not_port (ports : List (UnitM N)) (l : List (Instr N)) (u : Util N) (mem : Bool) (e : Nat)
    {n : N} (h : n ∉ ports.map (·.name)) : (issueLoop ports l u mem e).1.get n = u.get n := by
  induction l generalizing u mem e with
  | nil => rfl
  | cons ins rest ih =>
    unfold issueLoop
    cases ht : tryPorts ins.cap e ports u mem with
    | none => rfl
    | some r =>
      obtain ⟨pre, port, post, hp, _, _, rfl⟩ := tryPorts_eq_some ht
      simp only
      rw [ih, Util.get_set_ne]
      intro e1
      exact h (List.mem_map.2 ⟨port, by rw [hp]; simp, e1⟩)

theorem issueLoop_get_prefix (ports : List (UnitM N)) (l : List (Instr N)) (u : Util N) (mem : Bool) (e : Nat)
    (n : N) :
    ∃ l', (issueLoop ports l u mem e).1.get n = u.get n ++ l' ∧
      ∀ x ∈ l', x.st = .U ∧ e ≤ x.idx ∧ x.idx < (issueLoop ports l u mem e).2 := by
  induction l generalizing u mem e with
  | nil => exact ⟨[], (List.append_nil _).symm, fun _ h => absurd h List.not_mem_nil⟩
  | cons ins rest ih =>
    rw [issueLoop]
    cases ht : tryPorts ins.cap e ports u mem with
    | none => exact ⟨[], (List.append_nil _).symm, fun _ h => absurd h List.not_mem_nil⟩
    | some r =>
      obtain ⟨pre, port, post, hp, _, _, rfl⟩ := tryPorts_eq_some ht
      obtain ⟨l'', h1, h2⟩ :=
        ih (u.set port.name (u.get port.name ++ [⟨e, .U⟩])) (mem || decide (ins.cap ∈ port.acl)) (e + 1)
      have hge := (issueLoop_entered ports rest (u.set port.name (u.get port.name ++ [⟨e, .U⟩]))
        (mem || decide (ins.cap ∈ port.acl)) (e + 1)).1
      have h2' : ∀ x ∈ l'', x.st = .U ∧ e ≤ x.idx ∧ x.idx < (issueLoop ports rest
          (u.set port.name (u.get port.name ++ [⟨e, .U⟩])) (mem || decide (ins.cap ∈ port.acl)) (e + 1)).2 :=
        fun x hx => ⟨(h2 x hx).1, Nat.le_of_succ_le (h2 x hx).2.1, (h2 x hx).2.2⟩
      by_cases hpn : port.name = n
      · subst hpn
        refine ⟨⟨e, .U⟩ :: l'', ?_, List.forall_mem_cons.2 ⟨⟨rfl, Nat.le_refl _, Nat.lt_of_succ_le hge⟩, h2'⟩⟩
        rw [h1, Util.get_set_eq, List.append_assoc]
        rfl
      · exact ⟨l'', by rw [h1, Util.get_set_ne _ _ hpn], h2'⟩

theorem wasLoaded_iff (l : List HI) (i : Nat) : wasLoaded l i = true ↔ ∃ o ∈ l, o.idx = i ∧ o.st ≠ .D := by
  simp [wasLoaded]

theorem wasLoaded_of_mem {l : List HI} (h : (l.map (·.idx)).Nodup) {x : HI} (hx : x ∈ l) :
    wasLoaded l x.idx = (x.st != .D) := by
  rw [Bool.eq_iff_iff, wasLoaded_iff]
  constructor
  · rintro ⟨o, ho, hoi, hod⟩
    have : o = x := eq_of_map_eq_of_nodup (·.idx) h ho hx hoi
    subst this; simpa using hod
  · intro hd; exact ⟨x, hx, rfl, by simpa using hd⟩

theorem wasLoaded_eq_false_of_not_mem {l : List HI} {i : Nat} (h : ∀ y ∈ l, y.idx ≠ i) : wasLoaded l i = false :=
  Bool.eq_false_iff.2 fun hw =>
    let ⟨o, ho, hoi, _⟩ := (wasLoaded_iff l i).1 hw
    h o ho hoi

/-! ### The register test `_regs_avail` and the labels it leads to -/

theorem canAll_ok_true_iff (qs : Queues N) (wr : Bool) (i : Nat) (rs : List N) :
    canAll qs wr i rs = .ok true ↔ ∀ r ∈ rs, (qs.get r).canAccess wr i = some true := by
  induction rs with
  | nil => simp [canAll]
  | cons r rs ih =>
    unfold canAll
    cases h : (qs.get r).canAccess wr i with
    | none => simp [h]
    | some b => cases b <;> simp [h, ih]

theorem canAll_ok_false {qs : Queues N} {wr : Bool} {i : Nat} {rs : List N} (h : canAll qs wr i rs = .ok false) :
    ∃ r ∈ rs, (qs.get r).canAccess wr i = some false := by
  induction rs with
  | nil => simp [canAll] at h
  | cons r rs ih =>
    unfold canAll at h
    cases hc : (qs.get r).canAccess wr i with
    | none => simp [hc] at h
    | some b =>
      cases b with
      | false => exact ⟨r, List.mem_cons_self, hc⟩
      | true =>
        simp only [hc] at h
        obtain ⟨r', hr', h'⟩ := ih h
        exact ⟨r', List.mem_cons_of_mem _ hr', h'⟩

theorem canAll_error {qs : Queues N} {wr : Bool} {i : Nat} {rs : List N} {f : Fault}
    (h : canAll qs wr i rs = .error f) : f = .queueEmpty := by
  induction rs with
  | nil => simp [canAll] at h
  | cons r rs ih =>
    unfold canAll at h
    split at h
    · cases h; rfl
    · cases h
    · exact ih h

namespace Hazards

/-- the registers unit `unit` locks for instruction `ins` -/
def lockedRegs (unit : UnitM N) (ins : Instr N) : List N :=
  (if unit.rd then ins.srcs else []) ++ (if unit.wr then [ins.dst] else [])

/-- the outcome of the read test of `_regs_avail` -/
def rdTest (qs : Queues N) (unit : UnitM N) (i : Nat) (ins : Instr N) : Except Fault Bool :=
  if unit.rd then canAll qs false i ins.srcs else .ok true

/-- the outcome of the write test of `_regs_avail` -/
def wrTest (qs : Queues N) (unit : UnitM N) (i : Nat) (ins : Instr N) : Except Fault Bool :=
  if unit.wr then canAll qs true i [ins.dst] else .ok true

theorem regsAvail_eq (qs : Queues N) (unit : UnitM N) (i : Nat) (ins : Instr N) :
    regsAvail qs unit i ins =
      match rdTest qs unit i ins with
      | .error f => .error f
      | .ok false => .ok none
      | .ok true =>
        match wrTest qs unit i ins with
        | .error f => .error f
        | .ok false => .ok none
        | .ok true => .ok (some (lockedRegs unit ins)) := rfl

theorem rdTest_ok_true_iff (qs : Queues N) (unit : UnitM N) (i : Nat) (ins : Instr N) :
    rdTest qs unit i ins = .ok true ↔
      (unit.rd = true → ∀ r ∈ ins.srcs, (qs.get r).canAccess false i = some true) := by
  unfold rdTest
  cases unit.rd <;> simp [canAll_ok_true_iff]

theorem wrTest_ok_true_iff (qs : Queues N) (unit : UnitM N) (i : Nat) (ins : Instr N) :
    wrTest qs unit i ins = .ok true ↔ (unit.wr = true → (qs.get ins.dst).canAccess true i = some true) := by
  unfold wrTest
  cases unit.wr <;> simp [canAll_ok_true_iff]

theorem rdTest_ok_false {qs : Queues N} {unit : UnitM N} {i : Nat} {ins : Instr N}
    (h : rdTest qs unit i ins = .ok false) :
    unit.rd = true ∧ ∃ r ∈ ins.srcs, (qs.get r).canAccess false i = some false := by
  unfold rdTest at h
  cases hr : unit.rd with
  | false => simp [hr] at h
  | true => simp only [hr, if_true] at h; exact ⟨rfl, canAll_ok_false h⟩

theorem wrTest_ok_false {qs : Queues N} {unit : UnitM N} {i : Nat} {ins : Instr N}
    (h : wrTest qs unit i ins = .ok false) :
    unit.wr = true ∧ (qs.get ins.dst).canAccess true i = some false := by
  unfold wrTest at h
  cases hr : unit.wr with
  | false => simp [hr] at h
  | true =>
    simp only [hr, if_true] at h
    obtain ⟨r, hr', h'⟩ := canAll_ok_false h
    simp only [List.mem_singleton] at hr'
    subst hr'
    exact ⟨rfl, h'⟩

theorem regsAvail_some_iff (qs : Queues N) (unit : UnitM N) (i : Nat) (ins : Instr N) (regs : List N) :
    regsAvail qs unit i ins = .ok (some regs) ↔
      regs = lockedRegs unit ins ∧
      (unit.rd = true → ∀ r ∈ ins.srcs, (qs.get r).canAccess false i = some true) ∧
      (unit.wr = true → (qs.get ins.dst).canAccess true i = some true) := by
  rw [regsAvail_eq, ← rdTest_ok_true_iff, ← wrTest_ok_true_iff]
  cases h1 : rdTest qs unit i ins with
  | error f => simp
  | ok b =>
    cases b with
    | false => simp
    | true =>
      cases h2 : wrTest qs unit i ins with
      | error f => simp
      | ok b' => cases b' <;> simp [eq_comm]

theorem regsAvail_none_iff (qs : Queues N) (unit : UnitM N) (i : Nat) (ins : Instr N) :
    regsAvail qs unit i ins = .ok none ↔
      rdTest qs unit i ins = .ok false ∨ (rdTest qs unit i ins = .ok true ∧ wrTest qs unit i ins = .ok false) := by
  rw [regsAvail_eq]
  cases h1 : rdTest qs unit i ins with
  | error f => simp
  | ok b =>
    cases b with
    | false => simp
    | true =>
      cases h2 : wrTest qs unit i ins with
      | error f => simp
      | ok b' => cases b' <;> simp

end Hazards

theorem regsAvail_error {qs : Queues N} {unit : UnitM N} {i : Nat} {ins : Instr N} {f : Fault}
    (h : regsAvail qs unit i ins = .error f) : f = .queueEmpty := by
  -- every `.error` in the body of `regsAvail` is passed on from one of its two calls of `canAll`
  unfold regsAvail at h
  split at h
  · next f' hf =>
    cases h
    split at hf
    · exact canAll_error hf
    · cases hf
  · cases h
  · split at h
    · next f' hf =>
      cases h
      split at hf
      · exact canAll_error hf
      · cases hf
    · cases h
    · cases h
/-- the label `labelList` gives instruction `i` in `unit`, when it succeeds -/
def labelOf (prog : List (Instr N)) (qs : Queues N) (unit : UnitM N) (old : List HI) (i : Nat) : Stall :=
  if wasLoaded old i then .S
  else match prog[i]? with
    | none => .D
    | some ins =>
      match regsAvail qs unit i ins with
      | .ok (some _) => .U
      | _ => .D

/-- the dequeues instruction `i` requests in `unit` -/
def clearsOf (prog : List (Instr N)) (qs : Queues N) (unit : UnitM N) (old : List HI) (i : Nat) : List (N × Nat) :=
  if wasLoaded old i then []
  else match prog[i]? with
    | none => []
    | some ins =>
      match regsAvail qs unit i ins with
      | .ok (some regs) => regs.map (fun x => (x, i))
      | _ => []

theorem labelOf_eq_S_iff (prog : List (Instr N)) (qs : Queues N) (unit : UnitM N) (old : List HI) (i : Nat) :
    labelOf prog qs unit old i = .S ↔ wasLoaded old i = true := by
  unfold labelOf
  split
  · simp [*]
  · next h =>
    simp only [h]
    split
    · simp
    · split <;> simp

theorem label_loaded (prog : List (Instr N)) (qs : Queues N) (unit : UnitM N) {old : List HI} {i : Nat}
    (hw : wasLoaded old i = true) : labelOf prog qs unit old i = .S ∧ clearsOf prog qs unit old i = [] := by
  simp only [labelOf, clearsOf, hw, if_true, and_self]

theorem label_granted {prog : List (Instr N)} {qs : Queues N} {unit : UnitM N} {old : List HI} {i : Nat}
    {ins : Instr N} {regs : List N} (hw : ¬ wasLoaded old i = true) (hp : prog[i]? = some ins)
    (hr : regsAvail qs unit i ins = .ok (some regs)) :
    labelOf prog qs unit old i = .U ∧ clearsOf prog qs unit old i = regs.map (fun x => (x, i)) := by
  simp only [labelOf, clearsOf, hw, Bool.false_eq_true, if_false, hp, hr, and_self]

theorem label_blocked {prog : List (Instr N)} {qs : Queues N} {unit : UnitM N} {old : List HI} {i : Nat}
    {ins : Instr N} (hw : ¬ wasLoaded old i = true) (hp : prog[i]? = some ins)
    (hr : regsAvail qs unit i ins = .ok none) :
    labelOf prog qs unit old i = .D ∧ clearsOf prog qs unit old i = [] := by
  simp only [labelOf, clearsOf, hw, Bool.false_eq_true, if_false, hp, hr, and_self]

/-- label and requested dequeues of instruction `i` in `unit` follow the same cases: examined (not loaded before) and
all locked registers granted by `_regs_avail`, or not -/
theorem labelOf_clearsOf (prog : List (Instr N)) (qs : Queues N) (unit : UnitM N) (old : List HI) (i : Nat) :
    (labelOf prog qs unit old i = .U ∧ wasLoaded old i = false ∧ ∃ ins, prog[i]? = some ins ∧
        regsAvail qs unit i ins = .ok (some (Hazards.lockedRegs unit ins)) ∧
        clearsOf prog qs unit old i = (Hazards.lockedRegs unit ins).map (fun x => (x, i))) ∨
    (labelOf prog qs unit old i ≠ .U ∧ clearsOf prog qs unit old i = []) := by
  unfold labelOf clearsOf
  cases hw : wasLoaded old i with
  | true => simp
  | false =>
    cases hp : prog[i]? with
    | none => simp
    | some ins =>
      cases hr : regsAvail qs unit i ins with
      | error f => simp [hr]
      | ok o =>
        cases o with
        | none => simp [hr]
        | some regs =>
          have := ((Hazards.regsAvail_some_iff qs unit i ins regs).1 hr).1
          subst this
          simp [hr]

theorem labelOf_U_iff (prog : List (Instr N)) (qs : Queues N) (unit : UnitM N) (old : List HI) (i : Nat) :
    labelOf prog qs unit old i = .U ↔
      wasLoaded old i = false ∧ ∃ ins, prog[i]? = some ins ∧
        regsAvail qs unit i ins = .ok (some (Hazards.lockedRegs unit ins)) := by
  constructor
  · intro hl
    rcases labelOf_clearsOf prog qs unit old i with ⟨_, hw, ins, hp, hr, _⟩ | ⟨hne, _⟩
    · exact ⟨hw, ins, hp, hr⟩
    · exact absurd hl hne
  · rintro ⟨hw, ins, hp, hr⟩
    simp [labelOf, hw, hp, hr]

theorem labelList_cons_ok_iff {prog : List (Instr N)} {qs : Queues N} {unit : UnitM N} {old : List HI} {x : HI}
    {xs : List HI} {r : List HI × List (N × Nat)} :
    labelList prog qs unit old (x :: xs) = .ok r ↔
      ∃ r', labelList prog qs unit old xs = .ok r' ∧
        (wasLoaded old x.idx = true ∨
          ∃ ins o, prog[x.idx]? = some ins ∧ regsAvail qs unit x.idx ins = .ok o) ∧
        r = (⟨x.idx, labelOf prog qs unit old x.idx⟩ :: r'.1, clearsOf prog qs unit old x.idx ++ r'.2) := by
  -- `labelList` branches on the head (loaded / not in the program / register test raises, blocks, grants); the three
  -- branches that do not fault end in the same `match` on the labelling of the rest, read off here for any `C`
  have rest : ∀ (C : Prop) (e : Except Fault (List HI × List (N × Nat))) (st : Stall) (cl : List (N × Nat)), C →
      ((match e with
        | .error f => Except.error f
        | .ok r' => .ok ((⟨x.idx, st⟩ : HI) :: r'.1, cl ++ r'.2)) = .ok r ↔
      ∃ r', e = .ok r' ∧ C ∧ r = ((⟨x.idx, st⟩ : HI) :: r'.1, cl ++ r'.2)) := by
    intro C e st cl hC
    cases e with
    | error f => exact ⟨fun h => (nomatch h), fun ⟨_, h, _⟩ => (nomatch h)⟩
    | ok r' => exact ⟨fun h => ⟨r', rfl, hC, (Except.ok.inj h).symm⟩, fun ⟨_, h1, _, h3⟩ => by cases h1; rw [h3]⟩
  by_cases hw : wasLoaded old x.idx = true
  · obtain ⟨e1, e2⟩ := label_loaded prog qs unit hw
    rw [e1, e2, labelList, if_pos hw]
    exact rest _ _ .S [] (Or.inl hw)
  · rw [labelList, if_neg hw]
    split
    · next hp =>
      refine ⟨fun h => (nomatch h), fun ⟨_, _, hC, _⟩ => hC.elim (absurd · hw) ?_⟩
      rintro ⟨_, _, h, _⟩
      rw [hp] at h
      cases h
    · next ins hp =>
      split
      · next f hr =>
        refine ⟨fun h => (nomatch h), fun ⟨_, _, hC, _⟩ => hC.elim (absurd · hw) ?_⟩
        rintro ⟨ins', o, h1, h2⟩
        rw [hp] at h1
        cases h1
        rw [hr] at h2
        cases h2
      · next hr =>
        obtain ⟨e1, e2⟩ := label_blocked hw hp hr
        rw [e1, e2]
        exact rest _ _ .D [] (Or.inr ⟨ins, none, hp, hr⟩)
      · next regs hr =>
        obtain ⟨e1, e2⟩ := label_granted hw hp hr
        rw [e1, e2]
        exact rest _ _ .U _ (Or.inr ⟨ins, some regs, hp, hr⟩)

theorem labelList_ok {prog : List (Instr N)} {qs : Queues N} {unit : UnitM N} {old l : List HI}
    {r : List HI × List (N × Nat)} (h : labelList prog qs unit old l = .ok r) :
    r.1 = l.map (fun x => (⟨x.idx, labelOf prog qs unit old x.idx⟩ : HI)) ∧
    r.2 = l.flatMap (fun x => clearsOf prog qs unit old x.idx) := by
  induction l generalizing r with
  | nil => cases h; exact ⟨rfl, rfl⟩
  | cons x xs ih =>
    obtain ⟨r', hr', _, rfl⟩ := labelList_cons_ok_iff.1 h
    obtain ⟨ih1, ih2⟩ := ih hr'
    exact ⟨by rw [List.map_cons, ← ih1], by rw [List.flatMap_cons, ← ih2]⟩

theorem labelList_idx {prog : List (Instr N)} {qs : Queues N} {unit : UnitM N} {old l : List HI}
    {r : List HI × List (N × Nat)} (h : labelList prog qs unit old l = .ok r) :
    r.1.map (·.idx) = l.map (·.idx) := by
  rw [(labelList_ok h).1, List.map_map]; rfl

theorem labelList_length {prog : List (Instr N)} {qs : Queues N} {unit : UnitM N} {old l : List HI}
    {r : List HI × List (N × Nat)} (h : labelList prog qs unit old l = .ok r) : r.1.length = l.length := by
  rw [(labelList_ok h).1, List.length_map]

theorem labelList_S_iff {prog : List (Instr N)} {qs : Queues N} {unit : UnitM N} {old l : List HI}
    {r : List HI × List (N × Nat)} (h : labelList prog qs unit old l = .ok r) {x : HI} (hx : x ∈ r.1) :
    x.st = .S ↔ wasLoaded old x.idx = true := by
  rw [(labelList_ok h).1] at hx
  obtain ⟨y, _, rfl⟩ := List.mem_map.1 hx
  exact labelOf_eq_S_iff _ _ _ _ _

theorem labelList_ok_of {prog : List (Instr N)} {qs : Queues N} {unit : UnitM N} {old l : List HI}
    (h : ∀ x ∈ l, wasLoaded old x.idx = false →
      ∃ ins o, prog[x.idx]? = some ins ∧ regsAvail qs unit x.idx ins = .ok o) :
    ∃ r, labelList prog qs unit old l = .ok r := by
  induction l with
  | nil => exact ⟨_, rfl⟩
  | cons x xs ih =>
    obtain ⟨r, hr⟩ := ih (fun y hy => h y (List.mem_cons_of_mem _ hy))
    refine ⟨_, labelList_cons_ok_iff.2 ⟨r, hr, ?_, rfl⟩⟩
    cases hw : wasLoaded old x.idx with
    | true => exact Or.inl rfl
    | false => exact Or.inr (h x List.mem_cons_self hw)

theorem labelList_error {prog : List (Instr N)} {qs : Queues N} {unit : UnitM N} {old l : List HI} {f : Fault}
    (h : labelList prog qs unit old l = .error f) :
    f = .queueEmpty ∨ (f = .badIndex ∧ ∃ x ∈ l, prog[x.idx]? = none) := by
  induction l generalizing f with
  | nil => cases h
  | cons x xs ih =>
    have lift : ∀ {f}, labelList prog qs unit old xs = .error f →
        f = .queueEmpty ∨ (f = .badIndex ∧ ∃ y ∈ x :: xs, prog[y.idx]? = none) := fun h =>
      (ih h).imp_right (And.imp_right fun ⟨y, hy, hp⟩ => ⟨y, List.mem_cons_of_mem x hy, hp⟩)
    -- the head raises (`badIndex`, or what `regsAvail` raises), or the error is that of the rest
    rw [labelList] at h
    split at h
    · split at h
      · next hf => cases h; exact lift hf
      · cases h
    · split at h
      · next hp => cases h; exact Or.inr ⟨rfl, x, List.mem_cons_self, hp⟩
      · split at h
        · next hr => cases h; exact Or.inl (regsAvail_error hr)
        · split at h
          · next hf => cases h; exact lift hf
          · cases h
        · split at h
          · next hf => cases h; exact lift hf
          · cases h

theorem lookupUnit_some {us : List (UnitM N)} {n : N} {v : UnitM N} (h : lookupUnit us n = some v) :
    v ∈ us ∧ v.name = n := by
  induction us with
  | nil => cases h
  | cons u us ih =>
    unfold lookupUnit at h
    cases hl : lookupUnit us n with
    | some w =>
      simp only [hl] at h; cases h
      exact ⟨List.mem_cons_of_mem _ (ih hl).1, (ih hl).2⟩
    | none =>
      simp only [hl] at h
      by_cases e : u.name = n
      · simp only [e, if_true] at h; cases h; exact ⟨List.mem_cons_self, e⟩
      · simp [e] at h

theorem lookupUnit_eq_none_iff {us : List (UnitM N)} {n : N} : lookupUnit us n = none ↔ n ∉ us.map (·.name) := by
  induction us with
  | nil => simp [lookupUnit]
  | cons u us ih =>
    unfold lookupUnit
    cases hl : lookupUnit us n with
    | some w =>
      have := (lookupUnit_some hl)
      simp only [reduceCtorEq, List.map_cons, List.mem_cons, not_or, false_iff, not_and, Classical.not_not]
      intro _
      exact List.mem_map.2 ⟨w, this.1, this.2⟩
    | none =>
      have hn := ih.1 hl
      by_cases e : u.name = n
      · simp [e]
      · have e' : ¬ n = u.name := fun x => e x.symm
        simp [e, e', hn]

theorem lookupUnit_of_mem {us : List (UnitM N)} {v : UnitM N} (hn : (us.map (·.name)).Nodup) (hv : v ∈ us) :
    lookupUnit us v.name = some v := by
  induction us with
  | nil => cases hv
  | cons u us ih =>
    simp only [List.map_cons, List.nodup_cons] at hn
    unfold lookupUnit
    rcases List.mem_cons.1 hv with e | e
    · subst e
      rw [lookupUnit_eq_none_iff.2 hn.1]; simp
    · rw [ih hn.2 e]

omit [DecidableEq N] in
theorem unit_eq_of_name_eq {us : List (UnitM N)} (hn : (us.map (·.name)).Nodup) {a b : UnitM N}
    (ha : a ∈ us) (hb : b ∈ us) (h : a.name = b.name) : a = b :=
  eq_of_map_eq_of_nodup (·.name) hn ha hb h

theorem labelAll_nil (units : List (UnitM N)) (prog : List (Instr N)) (qs : Queues N) (old : Util N) :
    labelAll units prog qs old ([] : List (N × List HI)) = .ok (([] : List (N × List HI)), []) := rfl

theorem labelAll_cons_ok {units : List (UnitM N)} {prog : List (Instr N)} {qs : Queues N} {old : Util N}
    {n : N} {l : List HI} {rest : List (N × List HI)} {r : Util N × List (N × Nat)}
    (h : labelAll units prog qs old ((n, l) :: rest : List (N × List HI)) = .ok r) :
    ∃ r', labelAll units prog qs old rest = .ok r' ∧
      ((l = [] ∧ r = (((n, []) :: r'.1 : List (N × List HI)), r'.2)) ∨
       (l ≠ [] ∧ ∃ unit rl, lookupUnit units n = some unit ∧ labelList prog qs unit (old.get n) l = .ok rl ∧
          r = (((n, rl.1) :: r'.1 : List (N × List HI)), rl.2 ++ r'.2))) := by
  unfold labelAll at h
  by_cases he : l.isEmpty = true
  · simp only [he, if_true] at h
    cases hrec : labelAll units prog qs old rest with
    | error f => simp only [hrec] at h; cases h
    | ok r' =>
      simp only [hrec] at h; cases h
      exact ⟨r', rfl, Or.inl ⟨List.isEmpty_iff.1 he, rfl⟩⟩
  · simp only [he] at h
    have hne : l ≠ [] := fun e => he (List.isEmpty_iff.2 e)
    cases hl : lookupUnit units n with
    | none => simp only [hl] at h; cases h
    | some unit =>
      simp only [hl] at h
      cases hll : labelList prog qs unit (old.get n) l with
      | error f => simp only [hll] at h; cases h
      | ok rl =>
        simp only [hll] at h
        cases hrec : labelAll units prog qs old rest with
        | error f => simp only [hrec] at h; cases h
        | ok r' =>
          simp only [hrec] at h; cases h
          exact ⟨r', rfl, Or.inr ⟨hne, unit, rl, rfl, hll, rfl⟩⟩

theorem labelAll_keys {units : List (UnitM N)} {prog : List (Instr N)} {qs : Queues N} {old u : Util N}
    {r : Util N × List (N × Nat)} (h : labelAll units prog qs old u = .ok r) : AMap.keys r.1 = AMap.keys u := by
  induction u generalizing r with
  | nil => rw [labelAll_nil] at h; cases h; rfl
  | cons e rest ih =>
    obtain ⟨n, l⟩ := e
    obtain ⟨r', hr', hcase⟩ := labelAll_cons_ok h
    rcases hcase with ⟨_, rfl⟩ | ⟨_, unit, rl, _, _, rfl⟩
    · simp [ih hr']
    · simp [ih hr']

theorem labelAll_get {units : List (UnitM N)} {prog : List (Instr N)} {qs : Queues N} {old u : Util N}
    {r : Util N × List (N × Nat)} (h : labelAll units prog qs old u = .ok r) (n : N) :
    (u.get n = [] → r.1.get n = []) ∧
    (u.get n ≠ [] → ∃ unit, lookupUnit units n = some unit ∧
      r.1.get n = (u.get n).map (fun x => (⟨x.idx, labelOf prog qs unit (old.get n) x.idx⟩ : HI))) := by
  induction u generalizing r with
  | nil => rw [labelAll_nil] at h; cases h; simp
  | cons e rest ih =>
    obtain ⟨k, l⟩ := e
    obtain ⟨r', hr', hcase⟩ := labelAll_cons_ok h
    have ih' := ih hr'
    by_cases hk : k = n
    · subst hk
      rcases hcase with ⟨hl, rfl⟩ | ⟨hl, unit, rl, hlu, hll, rfl⟩
      · simp only [Util.get_cons, if_true]
        exact ⟨fun _ => trivial, fun h => absurd hl h⟩
      · simp only [Util.get_cons, if_true]
        exact ⟨fun e => absurd e hl, fun _ => ⟨unit, hlu, (labelList_ok hll).1⟩⟩
    · rcases hcase with ⟨_, rfl⟩ | ⟨_, unit, rl, _, _, rfl⟩
      · simp only [Util.get_cons, if_neg hk]
        exact ih'
      · simp only [Util.get_cons, if_neg hk]
        exact ih'

theorem labelAll_get_idx {units : List (UnitM N)} {prog : List (Instr N)} {qs : Queues N} {old u : Util N}
    {r : Util N × List (N × Nat)} (h : labelAll units prog qs old u = .ok r) (n : N) :
    (r.1.get n).map (·.idx) = (u.get n).map (·.idx) := by
  have := labelAll_get h n
  by_cases hn : u.get n = []
  · rw [this.1 hn, hn]
  · obtain ⟨unit, _, e⟩ := this.2 hn
    rw [e, List.map_map]; rfl

theorem labelAll_S_iff {units : List (UnitM N)} {prog : List (Instr N)} {qs : Queues N} {old u : Util N}
    {r : Util N × List (N × Nat)} (h : labelAll units prog qs old u = .ok r) {n : N} {x : HI}
    (hx : x ∈ r.1.get n) : x.st = .S ↔ wasLoaded (old.get n) x.idx = true := by
  have := labelAll_get h n
  by_cases hn : u.get n = []
  · rw [this.1 hn] at hx; cases hx
  · obtain ⟨unit, _, e⟩ := this.2 hn
    rw [e] at hx
    obtain ⟨y, _, rfl⟩ := List.mem_map.1 hx
    exact labelOf_eq_S_iff _ _ _ _ _

theorem labelAll_clears {units : List (UnitM N)} {prog : List (Instr N)} {qs : Queues N} {old u : Util N}
    {r : Util N × List (N × Nat)} (h : labelAll units prog qs old u = .ok r) :
    r.2 = (AMap.toList u).flatMap (fun e =>
      match lookupUnit units e.1 with
      | some unit => e.2.flatMap (fun x => clearsOf prog qs unit (old.get e.1) x.idx)
      | none => []) := by
  induction u generalizing r with
  | nil => rw [labelAll_nil] at h; cases h; rfl
  | cons e rest ih =>
    obtain ⟨n, l⟩ := e
    obtain ⟨r', hr', hcase⟩ := labelAll_cons_ok h
    rcases hcase with ⟨hl, rfl⟩ | ⟨hl, unit, rl, hlu, hll, rfl⟩
    · subst hl
      simp only [AMap.toList_cons, List.flatMap_cons, ih hr']
      cases lookupUnit units n <;> simp
    · simp only [AMap.toList_cons, List.flatMap_cons, ih hr', hlu, (labelList_ok hll).2]

theorem labelAll_ok_of {units : List (UnitM N)} {prog : List (Instr N)} {qs : Queues N} {old : Util N} {F : Util N}
    (h : ∀ e ∈ AMap.toList F, e.2 ≠ [] → ∃ unit, lookupUnit units e.1 = some unit ∧
      ∀ x ∈ e.2, wasLoaded (old.get e.1) x.idx = false →
        ∃ ins o, prog[x.idx]? = some ins ∧ regsAvail qs unit x.idx ins = .ok o) :
    ∃ lab, labelAll units prog qs old F = .ok lab := by
  induction F with
  | nil => exact ⟨_, rfl⟩
  | cons e rest ih =>
    obtain ⟨n, l⟩ := e
    obtain ⟨r, hr⟩ := ih (fun e' he' => h e' (List.mem_cons_of_mem _ he'))
    unfold labelAll
    by_cases hl : l.isEmpty = true
    · simp [hl, hr]
    · obtain ⟨unit, hlu, hx⟩ := h (n, l) List.mem_cons_self (fun e => hl (List.isEmpty_iff.2 e))
      obtain ⟨rl, hrl⟩ := labelList_ok_of hx
      simp only at hlu hrl
      simp [hl, hlu, hrl, hr]

theorem labelAll_error {units : List (UnitM N)} {prog : List (Instr N)} {qs : Queues N} {old u : Util N} {f : Fault}
    (h : labelAll units prog qs old u = .error f) :
    f = .queueEmpty ∨
    (f = .noUnit ∧ ∃ e ∈ AMap.toList u, e.2 ≠ [] ∧ lookupUnit units e.1 = none) ∨
    (f = .badIndex ∧ ∃ e ∈ AMap.toList u, ∃ x ∈ e.2, prog[x.idx]? = none) := by
  induction u generalizing f with
  | nil => cases h
  | cons e rest ih =>
    obtain ⟨n, l⟩ := e
    have lift : ∀ {f}, labelAll units prog qs old rest = .error f →
        f = .queueEmpty ∨
        (f = .noUnit ∧ ∃ e ∈ AMap.toList ((n, l) :: rest : List (N × List HI)), e.2 ≠ [] ∧ lookupUnit units e.1 = none) ∨
        (f = .badIndex ∧ ∃ e ∈ AMap.toList ((n, l) :: rest : List (N × List HI)), ∃ x ∈ e.2, prog[x.idx]? = none) :=
      fun h => (ih h).imp_right (Or.imp
        (And.imp_right fun ⟨e, he, hp⟩ => ⟨e, List.mem_cons_of_mem _ he, hp⟩)
        (And.imp_right fun ⟨e, he, hp⟩ => ⟨e, List.mem_cons_of_mem _ he, hp⟩))
    -- the entry raises (`noUnit`, or what `labelList` raises), or the error is that of the rest
    rw [labelAll] at h
    split at h
    · split at h
      · next hf => cases h; exact lift hf
      · cases h
    · next he =>
      split at h
      · next hl =>
        cases h
        exact Or.inr (Or.inl ⟨rfl, (n, l), List.mem_cons_self, fun e => he (List.isEmpty_iff.2 e), hl⟩)
      · split at h
        · next hll =>
          cases h
          rcases labelList_error hll with e | ⟨e, x, hx, hp⟩
          · exact Or.inl e
          · exact Or.inr (Or.inr ⟨e, (n, l), List.mem_cons_self, x, hx, hp⟩)
        · split at h
          · next hf => cases h; exact lift hf
          · cases h

theorem applyClears_error {qs : Queues N} {cs : List (N × Nat)} {f : Fault}
    (h : applyClears qs cs = .error f) : f = .badDequeue := by
  induction cs generalizing qs with
  | nil => simp [applyClears] at h
  | cons c cs ih =>
    obtain ⟨r, i⟩ := c
    unfold applyClears at h
    split at h
    · cases h; rfl
    · exact ih h

omit [DecidableEq N] in
theorem mem_allUnits_of_mem_inBoundary {p : Proc N} {m : UnitM N} (h : m ∈ p.inBoundary) : m ∈ p.allUnits := by
  simp only [Proc.inBoundary, List.mem_append] at h
  simp only [Proc.allUnits, List.mem_append]
  rcases h with h | h
  · exact Or.inl (Or.inl (Or.inr h))
  · exact Or.inl (Or.inl (Or.inl h))

omit [DecidableEq N] in
theorem model_mem_allUnits_of_mem_dests {p : Proc N} {d : FuncU N} (h : d ∈ p.dests) : d.model ∈ p.allUnits := by
  simp only [Proc.dests, List.mem_append] at h
  simp only [Proc.allUnits, List.mem_append, List.mem_map]
  rcases h with h | h
  · exact Or.inl (Or.inr ⟨d, h, rfl⟩)
  · exact Or.inr ⟨d, h, rfl⟩

open Spec

/-- Structural well-formedness: unique unit names, sink-first order with existing non-output predecessors (so no unit
is its own predecessor), no repeated predecessor. Every processor the loader produces satisfies it (`Props/C16b.lean`).
`wfProc`, the precondition of the properties, asks in addition for a capability on every unit and for the lock
placement on routes (`wfProc_iff_structOK_and`). Of these only the lock placement is ever used, and only where the
register queues come in: `Hazards.walk_in_route` and what rests on it (`Hazards.HazardInv`, C01, C02, and through
`Term.frozenDClause_holds` the `D` clause of C08). Everything else is stated under `structOK` alone. -/
def structOK (p : Proc N) : Bool :=
  decide (p.allUnits.map (·.name)).Nodup && orderOK p && p.dests.all (fun d => decide d.preds.Nodup)

theorem wfProc_iff_structOK_and (p : Proc N) :
    wfProc p = true ↔ structOK p = true ∧ p.allUnits.all (fun u => !u.caps.isEmpty) = true ∧
      (allCaps p).all (fun c =>
        (p.inBoundary.filter (fun u => decide (c ∈ u.caps))).all (fun s =>
          (routesFrom p c p.allUnits.length s).all routeLocksOK)) = true := by
  simp only [wfProc, structOK, Bool.and_eq_true]
  constructor
  · rintro ⟨⟨⟨⟨a, b⟩, c⟩, d⟩, e⟩; exact ⟨⟨⟨a, c⟩, e⟩, b, d⟩
  · rintro ⟨⟨⟨a, c⟩, e⟩, b, d⟩; exact ⟨⟨⟨⟨a, b⟩, c⟩, d⟩, e⟩

theorem structOK_of_wfProc {p : Proc N} (h : wfProc p = true) : structOK p = true :=
  ((wfProc_iff_structOK_and p).1 h).1

theorem structOK_nodup_names {p : Proc N} (h : structOK p = true) : (p.allUnits.map (·.name)).Nodup := by
  simp only [structOK, Bool.and_eq_true, decide_eq_true_eq] at h
  exact h.1.1

theorem structOK_orderOK {p : Proc N} (h : structOK p = true) : orderOK p = true := by
  simp only [structOK, Bool.and_eq_true] at h
  exact h.1.2

theorem structOK_preds_nodup {p : Proc N} (h : structOK p = true) : ∀ d ∈ p.dests, d.preds.Nodup := by
  simp only [structOK, Bool.and_eq_true, List.all_eq_true, decide_eq_true_eq] at h
  exact h.2

theorem wfProc_nodup_names {p : Proc N} (h : wfProc p = true) : (p.allUnits.map (·.name)).Nodup :=
  structOK_nodup_names (structOK_of_wfProc h)

theorem wfProc_orderOK {p : Proc N} (h : wfProc p = true) : orderOK p = true :=
  structOK_orderOK (structOK_of_wfProc h)

theorem wfProc_caps_nonempty {p : Proc N} (h : wfProc p = true) : ∀ u ∈ p.allUnits, u.caps ≠ [] := by
  intro u hu e
  have := List.all_eq_true.1 ((wfProc_iff_structOK_and p).1 h).2.1 u hu
  simp [e] at this

theorem wfProc_routes {p : Proc N} (h : wfProc p = true) :
    ∀ c ∈ allCaps p, ∀ s ∈ p.inBoundary, c ∈ s.caps → ∀ r ∈ routesFrom p c p.allUnits.length s, routeLocksOK r = true := by
  have h3 := ((wfProc_iff_structOK_and p).1 h).2.2
  simp only [List.all_eq_true] at h3
  intro c hc s hs hcs r hr
  exact h3 c hc s (List.mem_filter.2 ⟨hs, by simpa using hcs⟩) r hr

theorem destPos_isSome_of_mem {p : Proc N} {d : FuncU N} (hd : d ∈ p.dests) :
    ∃ k, destPos p d.model.name = some k := by
  cases h : destPos p d.model.name with
  | some k => exact ⟨k, rfl⟩
  | none =>
    unfold destPos at h
    rw [List.findIdx?_eq_none_iff] at h
    have := h d hd
    simp at this

theorem destPos_lt {p : Proc N} {n : N} {k : Nat} (h : destPos p n = some k) : k < p.dests.length := by
  unfold destPos at h
  exact (List.findIdx?_eq_some_iff_getElem.1 h).1

theorem orderOK_pred {p : Proc N} (h : orderOK p = true) {d : FuncU N} (hd : d ∈ p.dests) {q : N}
    (hq : q ∈ d.preds) :
    q ∈ p.allUnits.map (·.name) ∧ q ∉ p.outBoundary ∧
      ∀ kq, destPos p q = some kq → ∃ kd, destPos p d.model.name = some kd ∧ kd < kq := by
  simp only [orderOK, List.all_eq_true, Bool.and_eq_true, decide_eq_true_eq, isOutB, Bool.not_eq_true',
    decide_eq_false_iff_not] at h
  obtain ⟨⟨h1, h2⟩, h3⟩ := h d hd q hq
  refine ⟨h1, h2, ?_⟩
  intro kq hkq
  obtain ⟨kd, hkd⟩ := destPos_isSome_of_mem hd
  rw [hkq, hkd] at h3
  exact ⟨kd, hkd, by simpa using h3⟩

theorem orderOK_self_not_pred {p : Proc N} (h : orderOK p = true) {d : FuncU N} (hd : d ∈ p.dests) :
    d.model.name ∉ d.preds := by
  intro hq
  obtain ⟨k, hk⟩ := destPos_isSome_of_mem hd
  obtain ⟨kd, hkd, hlt⟩ := (orderOK_pred h hd hq).2.2 k hk
  rw [hk] at hkd; cases hkd; omega

theorem structOK_self_not_pred {p : Proc N} (h : structOK p = true) : ∀ d ∈ p.dests, d.model.name ∉ d.preds :=
  fun _ hd => orderOK_self_not_pred (structOK_orderOK h) hd

/-- The invariant of one cycle record that holds with unique unit names alone; `e` bounds the hosted program indices.
Its last field is the statement of C04. -/
structure RowBase (p : Proc N) (e : Nat) (u : Util N) : Prop where
  keys_nodup : (AMap.keys u).Nodup
  names : ∀ n, u.get n ≠ [] → n ∈ p.allUnits.map (·.name)
  idx_lt : ∀ n x, x ∈ u.get n → x.idx < e
  width : ∀ m ∈ p.allUnits, (u.get m.name).length ≤ m.width

/-- No program index is hosted twice — neither twice in one unit nor in two units. -/
structure RowND (u : Util N) : Prop where
  nodup_unit : ∀ n, ((u.get n).map (·.idx)).Nodup
  unique_host : ∀ n n' i, i ∈ (u.get n).map (·.idx) → i ∈ (u.get n').map (·.idx) → n = n'

/-- all hosted program indices, unit by unit in the order of `p.allUnits` -/
def hostedIdx (p : Proc N) (u : Util N) : List Nat :=
  (p.allUnits.map (·.name)).flatMap (fun n => (u.get n).map (·.idx))

theorem RowND.hosted_nodup {p : Proc N} {u : Util N} (h : RowND u) (hn : (p.allUnits.map (·.name)).Nodup) :
    (hostedIdx p u).Nodup :=
  nodup_flatMap_of _ _ hn (fun n _ => h.nodup_unit n) (fun n _ n' _ i hi hi' => h.unique_host n n' i hi hi')

theorem RowND.of_hosted_nodup {p : Proc N} {u : Util N} (hnames : ∀ n, u.get n ≠ [] → n ∈ p.allUnits.map (·.name))
    (h : (hostedIdx p u).Nodup) : RowND u := by
  obtain ⟨k1, k2⟩ := List.pairwise_flatMap.1 h
  have mem_names : ∀ n i, i ∈ (u.get n).map (·.idx) → n ∈ p.allUnits.map (·.name) := by
    intro n i hi
    apply hnames
    intro e; rw [e] at hi; cases hi
  refine ⟨?_, ?_⟩
  · intro n
    by_cases e : u.get n = []
    · simp [e]
    · exact k1 n (hnames n e)
  · intro n n' i hi hi'
    rcases pairwise_mem k2 (mem_names n i hi) (mem_names n' i hi') with e | d | d
    · exact e
    · exact absurd rfl (d i hi i hi')
    · exact absurd rfl (d i hi' i hi)

theorem RowND.eq_of_idx_eq {u : Util N} (h : RowND u) {n n' : N} {x y : HI} (hx : x ∈ u.get n) (hy : y ∈ u.get n')
    (e : x.idx = y.idx) : n = n' ∧ x = y := by
  have hn : n = n' := h.unique_host n n' x.idx (List.mem_map.2 ⟨x, hx, rfl⟩) (List.mem_map.2 ⟨y, hy, e.symm⟩)
  subst hn
  exact ⟨rfl, eq_of_map_eq_of_nodup (fun h : HI => h.idx) (h.nodup_unit n) hx hy e⟩

theorem RowBase.nil (p : Proc N) (e : Nat) : RowBase p e ([] : List (N × List HI)) :=
  ⟨by simp, by simp, by simp, by simp⟩

theorem RowND.nil : RowND ([] : List (N × List HI)) := ⟨by simp, by simp⟩

theorem RowBase.mono {p : Proc N} {e e' : Nat} {u : Util N} (h : RowBase p e u) (he : e ≤ e') : RowBase p e' u :=
  ⟨h.keys_nodup, h.names, fun n x hx => Nat.lt_of_lt_of_le (h.idx_lt n x hx) he, h.width⟩

/-- `names` in the form the C03 checker reads it -/
theorem RowBase.entry_names {p : Proc N} {e : Nat} {u : Util N} (h : RowBase p e u) {n : N} {l : List HI}
    (hm : (n, l) ∈ AMap.toList u) : l = [] ∨ n ∈ p.allUnits.map (·.name) := by
  by_cases hl : l = []
  · exact Or.inl hl
  · right; apply h.names; rw [Util.get_of_mem h.keys_nodup hm]; exact hl

/-- `RowBase` and `RowND` speak of the hosted indices only; used after a flush (sublist) and after relabelling (same
indices). -/
theorem RowBase.of_sublist {p : Proc N} {e : Nat} {u u' : Util N} (h : RowBase p e u) (hk : (AMap.keys u').Nodup)
    (hs : ∀ n, ((u'.get n).map (·.idx)).Sublist ((u.get n).map (·.idx))) : RowBase p e u' := by
  refine ⟨hk, ?_, ?_, ?_⟩
  · intro n hne
    apply h.names
    intro e0
    have := hs n
    rw [e0, List.map_nil, List.sublist_nil, List.map_eq_nil_iff] at this
    exact hne this
  · intro n x hx
    obtain ⟨y, hy, e1⟩ := List.mem_map.1 ((hs n).subset (List.mem_map.2 ⟨x, hx, rfl⟩))
    rw [← e1]
    exact h.idx_lt n y hy
  · intro m hm
    have := (hs m.name).length_le
    rw [List.length_map, List.length_map] at this
    exact Nat.le_trans this (h.width m hm)

theorem RowND.of_sublist {u u' : Util N} (h : RowND u)
    (hs : ∀ n, ((u'.get n).map (·.idx)).Sublist ((u.get n).map (·.idx))) : RowND u' :=
  ⟨fun n => (hs n).nodup (h.nodup_unit n),
    fun n n' i hi hi' => h.unique_host n n' i ((hs n).subset hi) ((hs n').subset hi')⟩

theorem RowBase.after_flush {p : Proc N} {e : Nat} {u : Util N} (h : RowBase p e u) (outs : List N) :
    RowBase p e (flushOutputs outs u) :=
  h.of_sublist (flushOutputs_keys_nodup outs h.keys_nodup) (fun n => (flushOutputs_get_sublist outs u n).map _)

theorem RowND.after_flush {u : Util N} (h : RowND u) (outs : List N) : RowND (flushOutputs outs u) :=
  h.of_sublist (fun n => (flushOutputs_get_sublist outs u n).map _)

/-- The common shape of filling a destination and of an issue: one unit gets `app` appended, anything may be dropped. -/
theorem RowBase.of_step {p : Proc N} {e e' : Nat} {u u' : Util N} (h : RowBase p e u)
    (hn : (p.allUnits.map (·.name)).Nodup) (hk : (AMap.keys u').Nodup) {x : UnitM N} (hx : x ∈ p.allUnits)
    {app : List HI} (hother : ∀ n, x.name ≠ n → (u'.get n).Sublist (u.get n))
    (hself : (u'.get x.name).Sublist (u.get x.name ++ app)) (hle : e ≤ e') (happ : ∀ a ∈ app, a.idx < e')
    (hw : (u'.get x.name).length ≤ x.width) : RowBase p e' u' := by
  refine ⟨hk, ?_, ?_, ?_⟩
  · intro n hne
    by_cases hxn : x.name = n
    · exact hxn ▸ List.mem_map.2 ⟨x, hx, rfl⟩
    · exact h.names n (fun e0 => hne (List.sublist_nil.1 (e0 ▸ hother n hxn)))
  · intro n a ha
    have old : a ∈ u.get n → a.idx < e' := fun ha => Nat.lt_of_lt_of_le (h.idx_lt n a ha) hle
    by_cases hxn : x.name = n
    · subst hxn
      exact (List.mem_append.1 (hself.subset ha)).elim old (happ a)
    · exact old ((hother n hxn).subset ha)
  · intro m hm
    by_cases hxn : x.name = m.name
    · rw [← unit_eq_of_name_eq hn hx hm hxn]; exact hw
    · exact Nat.le_trans (hother m.name hxn).length_le (h.width m hm)

theorem RowBase.after_fillUnit {p : Proc N} {e : Nat} {u : Util N} (h : RowBase p e u)
    (hn : (p.allUnits.map (·.name)).Nodup) (prog : List (Instr N)) {d : FuncU N} (hd : d ∈ p.dests) (mem : Bool) :
    RowBase p e (fillUnit prog d u mem).1 := by
  have hdm := model_mem_allUnits_of_mem_dests hd
  have hsub := fillUnit_get_sublist prog d u mem
  refine h.of_step hn (fillUnit_keys_nodup prog d mem h.keys_nodup) hdm
    (fun n hne => by have := hsub n; rwa [if_neg hne] at this)
    (by have := hsub d.model.name; rwa [if_pos rfl] at this) (Nat.le_refl e) ?_
    (fillUnit_length_self prog d u mem (h.width _ hdm))
  intro a ha
  obtain ⟨c, hc, rfl⟩ := List.mem_map.1 ha
  obtain ⟨_, y, hy, _, e1⟩ := mem_unitTaken hc
  exact e1 ▸ h.idx_lt _ y hy

theorem candidates_idx_nodup {u : Util N} (h : RowND u) (prog : List (Instr N)) {d : FuncU N}
    (hpn : d.preds.Nodup) : ((candidates prog d u).map (·.2)).Nodup := by
  refine ((candidates_perm prog d u).map _).nodup_iff.2 ?_
  rw [List.map_flatMap]
  apply nodup_flatMap_of _ _ hpn
  · intro a _
    have : ((candsOf prog d.model u a).map (·.2)) = ((u.get a).filter (validCand prog d.model)).map (·.idx) := by
      simp [candsOf, List.map_map, Function.comp_def]
    rw [this]
    exact (List.filter_sublist.map _).nodup (h.nodup_unit a)
  · intro a _ b _ i hi hi'
    have key : ∀ a, i ∈ (candsOf prog d.model u a).map (·.2) → i ∈ (u.get a).map (·.idx) := by
      intro a hi
      obtain ⟨c, hc, rfl⟩ := List.mem_map.1 hi
      obtain ⟨_, x, hx, _, e⟩ := mem_candsOf.1 hc
      exact List.mem_map.2 ⟨x, hx, e⟩
    exact h.unique_host a b i (key a hi) (key b hi')

theorem RowND.of_step {u u' : Util N} (h : RowND u) (x : N) (app : List Nat)
    (hother : ∀ n, x ≠ n → (u'.get n).Sublist (u.get n))
    (hself : (u'.get x).map (·.idx) = (u.get x).map (·.idx) ++ app) (happ : app.Nodup)
    (hnew : ∀ i ∈ app, i ∉ (u.get x).map (·.idx))
    (hfresh : ∀ i ∈ app, ∀ n, x ≠ n → i ∉ (u'.get n).map (·.idx)) : RowND u' := by
  have split : ∀ n i, i ∈ (u'.get n).map (·.idx) → i ∈ (u.get n).map (·.idx) ∨ (x = n ∧ i ∈ app) := by
    intro n i hi
    by_cases hxn : x = n
    · subst hxn
      rw [hself, List.mem_append] at hi
      exact hi.imp_right (fun a => ⟨rfl, a⟩)
    · exact Or.inl (((hother n hxn).map _).subset hi)
  have only : ∀ n i, i ∈ app → i ∈ (u'.get n).map (·.idx) → x = n :=
    fun n i hi hi' => Classical.byContradiction (fun hxn => hfresh i hi n hxn hi')
  refine ⟨fun n => ?_, fun n n' i hi hi' => ?_⟩
  · by_cases hxn : x = n
    · subst hxn
      rw [hself, List.nodup_append]
      exact ⟨h.nodup_unit _, happ, fun i hi j hj e => hnew j hj (e ▸ hi)⟩
    · exact ((hother n hxn).map _).nodup (h.nodup_unit n)
  · rcases split n i hi with h1 | ⟨h1, h1'⟩
    · rcases split n' i hi' with h2 | ⟨h2, h2'⟩
      · exact h.unique_host n n' i h1 h2
      · exact (only n i h2' hi).symm.trans h2
    · exact h1.symm.trans (only n' i h1' hi')

theorem RowND.after_fillUnit {u : Util N} (h : RowND u) (prog : List (Instr N)) {d : FuncU N}
    (hpn : d.preds.Nodup) (hself : d.model.name ∉ d.preds) (mem : Bool) :
    RowND (fillUnit prog d u mem).1 := by
  have hother : ∀ n, d.model.name ≠ n → ((fillUnit prog d u mem).1.get n).Sublist (u.get n) := by
    intro n hne
    have := fillUnit_get_sublist prog d u mem n
    rwa [if_neg hne] at this
  have taken : ∀ c ∈ unitTaken prog d u mem, c.1 ∈ d.preds ∧ c.2 ∈ (u.get c.1).map (·.idx) := by
    intro c hc
    obtain ⟨h1, x, hx, _, e⟩ := mem_unitTaken hc
    exact ⟨h1, List.mem_map.2 ⟨x, hx, e⟩⟩
  refine h.of_step d.model.name ((unitTaken prog d u mem).map (·.2)) hother ?_
    (((fillTaken_sublist _ _ _ _ _).map _).nodup (candidates_idx_nodup h prog hpn)) ?_ ?_
  · rw [fillUnit_get_self prog d u mem hself, List.map_append, List.map_map]; rfl
  · -- a taken index was hosted by a predecessor, which is not `d` itself
    intro i hi hi'
    obtain ⟨c, hc, rfl⟩ := List.mem_map.1 hi
    have := h.unique_host _ _ _ hi' (taken c hc).2
    exact hself (this ▸ (taken c hc).1)
  · -- elsewhere it can only be where it was, and there it has been removed
    intro i hi n hne hi'
    obtain ⟨c, hc, rfl⟩ := List.mem_map.1 hi
    have hcn : c.1 = n := h.unique_host c.1 n c.2 (taken c hc).2 (((hother n hne).map _).subset hi')
    rw [fillUnit_get_of_ne prog d u mem hne] at hi'
    obtain ⟨y, hy, e1⟩ := List.mem_map.1 hi'
    have := (List.mem_filter.1 hy).2
    simp only [Bool.not_eq_true', List.any_eq_false, Bool.and_eq_true, beq_iff_eq, not_and] at this
    exact this c hc hcn e1.symm

theorem RowBase.after_issue {p : Proc N} {e : Nat} {u : Util N} (h : RowBase p e u)
    (hn : (p.allUnits.map (·.name)).Nodup) {port : UnitM N} (hp : port ∈ p.allUnits)
    (hfree : (u.get port.name).length ≠ port.width) :
    RowBase p (e + 1) (u.set port.name (u.get port.name ++ [⟨e, .U⟩])) := by
  refine h.of_step hn (Util.keys_set_nodup _ _ h.keys_nodup) hp
    (fun n hne => by rw [Util.get_set_ne _ _ hne]; exact List.Sublist.refl _)
    (by rw [Util.get_set_eq]; exact List.Sublist.refl _) (Nat.le_succ e)
    (fun a ha => by rw [List.mem_singleton.1 ha]; exact Nat.lt_succ_self e) ?_
  have := h.width _ hp
  rw [Util.get_set_eq, List.length_append, List.length_singleton]
  omega

theorem RowND.after_issue {p : Proc N} {e : Nat} {u : Util N} (h : RowND u) (hb : RowBase p e u) (pn : N) :
    RowND (u.set pn (u.get pn ++ [⟨e, .U⟩])) := by
  have fresh : ∀ n, e ∉ (u.get n).map (·.idx) := by
    intro n hi
    obtain ⟨x, hx, e1⟩ := List.mem_map.1 hi
    exact Nat.lt_irrefl e (e1 ▸ hb.idx_lt n x hx)
  refine h.of_step pn [e] (fun n hne => by rw [Util.get_set_ne _ _ hne]; exact List.Sublist.refl _)
    (by rw [Util.get_set_eq, List.map_append]; rfl) (List.pairwise_singleton _ e) ?_ ?_
  · intro i hi
    rw [List.mem_singleton.1 hi]; exact fresh pn
  · intro i hi n hne
    rw [List.mem_singleton.1 hi, Util.get_set_ne _ _ hne]; exact fresh n

/-- what the analysis of one cycle assumes of the record `old` it starts from, `e` instructions having been issued -/
structure Adv.CycleHyp (p : Proc N) (e : Nat) (old : Util N) : Prop where
  wf : structOK p = true
  base : RowBase p e old
  nd : RowND old

/-- The part of the core invariant that needs only unique unit names (enough for C04 and C05). -/
structure BaseInv (p : Proc N) (prog : List (Instr N)) (s : SimState N) : Prop where
  entered_le : s.entered ≤ prog.length
  util_eq : s.util = s.table.head?.getD []
  row : RowBase p s.entered s.util
  rows : ∀ r ∈ s.table, RowBase p s.entered r

/-- The core invariant: `BaseInv` plus "no program index is hosted twice". -/
structure CoreInv (p : Proc N) (prog : List (Instr N)) (s : SimState N) : Prop extends BaseInv p prog s where
  nd : RowND s.util
  nds : ∀ r ∈ s.table, RowND r

theorem BaseInv.init (p : Proc N) (prog : List (Instr N)) : BaseInv p prog (initState prog) :=
  ⟨Nat.zero_le _, rfl, RowBase.nil p 0, by simp [initState]⟩

theorem CoreInv.init (p : Proc N) (prog : List (Instr N)) : CoreInv p prog (initState prog) :=
  ⟨BaseInv.init p prog, RowND.nil, by simp [initState]⟩

theorem CoreInv.hosted_nodup {p : Proc N} {prog : List (Instr N)} {s : SimState N} (h : CoreInv p prog s)
    (hn : (p.allUnits.map (·.name)).Nodup) : (hostedIdx p s.util).Nodup := h.nd.hosted_nodup hn

theorem CoreInv.hosted_nodup_rows {p : Proc N} {prog : List (Instr N)} {s : SimState N} (h : CoreInv p prog s)
    (hn : (p.allUnits.map (·.name)).Nodup) : ∀ r ∈ s.table, (hostedIdx p r).Nodup :=
  fun r hr => (h.nds r hr).hosted_nodup hn

/-- The *memory entries* into `m`: how many instructions in unit `m` of `new` are not in unit `m` of `old` and have
their capability in `m`'s memory ACL. -/
def memNewAt (prog : List (Instr N)) (old new : Util N) (m : UnitM N) : Nat :=
  (((new.get m.name).map (·.idx)).filter
    (fun i => !((old.get m.name).any (fun o => o.idx == i)) && capIn prog i m.acl)).length

def memNew (prog : List (Instr N)) (units : List (UnitM N)) (old new : Util N) : Nat :=
  (units.map (memNewAt prog old new)).sum

theorem memNew_congr (prog : List (Instr N)) (units : List (UnitM N)) (old : Util N) {new new' : Util N}
    (h : ∀ n, (new'.get n).map (·.idx) = (new.get n).map (·.idx)) :
    memNew prog units old new' = memNew prog units old new := by
  unfold memNew
  congr 1
  apply List.map_congr_left
  intro m _
  unfold memNewAt
  rw [h m.name]

theorem memNewAt_le_of_sublist (prog : List (Instr N)) (old : Util N) {new new' : Util N} (m : UnitM N)
    (app : List HI) (h : (new'.get m.name).Sublist (new.get m.name ++ app)) :
    memNewAt prog old new' m ≤
      memNewAt prog old new m + (app.filter (fun x => capIn prog x.idx m.acl)).length := by
  unfold memNewAt
  have h1 := ((h.map (·.idx)).filter
    (fun i => !((old.get m.name).any (fun o => o.idx == i)) && capIn prog i m.acl)).length_le
  rw [List.map_append, List.filter_append, List.length_append] at h1
  refine Nat.le_trans h1 (Nat.add_le_add_left ?_ _)
  have h2 : ((app.map (·.idx)).filter
      (fun i => !((old.get m.name).any (fun o => o.idx == i)) && capIn prog i m.acl)).length ≤
      ((app.map (·.idx)).filter (fun i => capIn prog i m.acl)).length := by
    rw [← List.countP_eq_length_filter, ← List.countP_eq_length_filter]
    exact List.countP_mono_left (fun i _ hi => (Bool.and_eq_true _ _ ▸ hi).2)
  refine Nat.le_trans h2 (Nat.le_of_eq ?_)
  rw [List.filter_map, List.length_map]
  rfl

theorem memNewAt_eq_zero (prog : List (Instr N)) {old new : Util N} (m : UnitM N)
    (h : (new.get m.name).Sublist (old.get m.name)) : memNewAt prog old new m = 0 := by
  unfold memNewAt
  rw [List.length_eq_zero_iff, List.filter_eq_nil_iff]
  intro i hi
  obtain ⟨x, hx, rfl⟩ := List.mem_map.1 hi
  have : (old.get m.name).any (fun o => o.idx == x.idx) = true :=
    List.any_eq_true.2 ⟨x, h.subset hx, by simp⟩
  simp [this]

theorem memNew_step (prog : List (Instr N)) {units : List (UnitM N)} (hn : (units.map (·.name)).Nodup)
    (old : Util N) {u u' : Util N} (x : UnitM N) (hx : x ∈ units) (app : List HI)
    (hother : ∀ n, x.name ≠ n → (u'.get n).Sublist (u.get n))
    (hself : (u'.get x.name).Sublist (u.get x.name ++ app)) :
    memNew prog units old u' ≤ memNew prog units old u + (app.filter (fun h => capIn prog h.idx x.acl)).length := by
  -- a unit other than `x` only loses instructions: the case `app = []`
  exact sum_map_le_add_of_mem (nodup_of_nodup_map _ hn) hx (memNewAt_le_of_sublist prog old x app hself)
    (fun m hm hne => memNewAt_le_of_sublist prog old m []
      (by rw [List.append_nil]; exact hother m.name (fun a => hne (unit_eq_of_name_eq hn hm hx a.symm))))

theorem memNew_flush (prog : List (Instr N)) (units : List (UnitM N)) (outs : List N) (old : Util N) :
    memNew prog units old (flushOutputs outs old) = 0 := by
  unfold memNew
  rw [List.sum_eq_zero_iff_forall_eq_nat]
  intro k hk
  obtain ⟨m, _, rfl⟩ := List.mem_map.1 hk
  exact memNewAt_eq_zero prog m (flushOutputs_get_sublist outs old m.name)

section
omit [DecidableEq N]

/-- the record before cycle `t` of a diagram: the empty record for the first cycle -/
def prevRow (tbl : List (Util N)) (t : Nat) : Util N := if t = 0 then ([] : List (N × List HI)) else tbl.getD (t - 1) []

theorem head?_reverse_take (tbl : List (Util N)) {t : Nat} (ht : t ≤ tbl.length) :
    (tbl.take t).reverse.head?.getD ([] : List (N × List HI)) = prevRow tbl t := by
  unfold prevRow
  cases t with
  | zero => rfl
  | succ t =>
    rw [List.head?_reverse, List.getLast?_take, if_neg (Nat.succ_ne_zero t), if_neg (Nat.succ_ne_zero t),
      List.getD_eq_getElem?_getD, Nat.add_sub_cancel, List.getElem?_eq_getElem (by omega)]
    rfl

end

/-! From here on the statements go through `sortedInputs` (in `fillCycle`, `runCycle`, `simulate`), which needs the
order on unit names. -/

variable [LT N] [DecidableRel (α := N) (· < ·)]

omit [DecidableEq N] in
theorem mem_sortedInputs {p : Proc N} {m : UnitM N} : m ∈ sortedInputs p ↔ m ∈ p.inBoundary := ISort.mem_isort _

theorem fillCycle_induction (p : Proc N) (prog : List (Instr N)) (P : Util N → Bool → Nat → Prop)
    (old : Util N) (e : Nat)
    (h0 : P (flushOutputs p.outBoundary old) false e)
    (hfill : ∀ d ∈ p.dests, ∀ u mem, P u mem e → P (fillUnit prog d u mem).1 (fillUnit prog d u mem).2 e)
    (hissue : ∀ u mem e' ins port, P u mem e' → prog[e']? = some ins → port ∈ p.inBoundary →
      portUsable ins.cap u mem port →
      P (u.set port.name (u.get port.name ++ [⟨e', .U⟩])) (mem || decide (ins.cap ∈ port.acl)) (e' + 1)) :
    ∃ mem', P (fillCycle p prog old e).1 mem' (fillCycle p prog old e).2 := by
  have h1 := moveFlights_induction p prog (fun u mem => P u mem e) old h0 hfill
  obtain ⟨mem', h2, _⟩ := issueLoop_induction prog (sortedInputs p) P
    (fun u mem e' ins pre port post hP hins hports hu _ =>
      hissue u mem e' ins port hP hins
        (mem_sortedInputs.1 (by rw [hports]; simp)) hu)
    _ _ e h1
  exact ⟨mem', h2⟩

theorem fillCycle_entered_ge (p : Proc N) (prog : List (Instr N)) (old : Util N) (e : Nat) :
    e ≤ (fillCycle p prog old e).2 := (issueLoop_entered _ _ _ _ _).1

theorem fillCycle_entered_le (p : Proc N) (prog : List (Instr N)) (old : Util N) (e : Nat) (h : e ≤ prog.length) :
    (fillCycle p prog old e).2 ≤ prog.length := by
  have := (issueLoop_entered (sortedInputs p) (prog.drop e) (moveFlights p prog old).1 (moveFlights p prog old).2 e).2
  rw [List.length_drop] at this
  exact Nat.le_trans this (by omega)

theorem runCycle_eq_ok {p : Proc N} {prog : List (Instr N)} {s : SimState N} {o : Option (SimState N)}
    (h : runCycle p prog s = .ok o) :
    ∃ lab qs, labelAll p.allUnits prog s.queues s.util (fillCycle p prog s.util s.entered).1 = .ok lab ∧
      applyClears s.queues lab.2 = .ok qs ∧
      o = if Util.beq lab.1 s.util then none
          else some { util := lab.1, queues := qs, entered := (fillCycle p prog s.util s.entered).2,
                      exited := s.exited + countOut p.outBoundary lab.1, table := lab.1 :: s.table } := by
  unfold runCycle at h
  simp only at h
  cases hl : labelAll p.allUnits prog s.queues s.util (fillCycle p prog s.util s.entered).1 with
  | error f => simp only [hl] at h; cases h
  | ok lab =>
    simp only [hl] at h
    cases hc : applyClears s.queues lab.2 with
    | error f => simp only [hc] at h; cases h
    | ok qs =>
      simp only [hc] at h
      refine ⟨lab, qs, rfl, hc, ?_⟩
      split at h
      · next hb => rw [if_pos hb]; exact (Except.ok.inj h).symm
      · next hb => rw [if_neg hb]; exact (Except.ok.inj h).symm

theorem runCycle_eq_some {p : Proc N} {prog : List (Instr N)} {s s' : SimState N}
    (h : runCycle p prog s = .ok (some s')) :
    ∃ lab qs, labelAll p.allUnits prog s.queues s.util (fillCycle p prog s.util s.entered).1 = .ok lab ∧
      applyClears s.queues lab.2 = .ok qs ∧ Util.beq lab.1 s.util = false ∧
      s' = { util := lab.1, queues := qs, entered := (fillCycle p prog s.util s.entered).2,
             exited := s.exited + countOut p.outBoundary lab.1, table := lab.1 :: s.table } := by
  obtain ⟨lab, qs, hl, hc, ho⟩ := runCycle_eq_ok h
  cases hb : Util.beq lab.1 s.util with
  | true => rw [hb, if_pos rfl] at ho; cases ho
  | false => rw [hb, if_neg Bool.false_ne_true] at ho; exact ⟨lab, qs, hl, hc, hb, Option.some.inj ho⟩

theorem runCycle_eq_none {p : Proc N} {prog : List (Instr N)} {s : SimState N}
    (h : runCycle p prog s = .ok none) :
    ∃ lab qs, labelAll p.allUnits prog s.queues s.util (fillCycle p prog s.util s.entered).1 = .ok lab ∧
      applyClears s.queues lab.2 = .ok qs ∧ Util.beq lab.1 s.util = true := by
  obtain ⟨lab, qs, hl, hc, ho⟩ := runCycle_eq_ok h
  cases hb : Util.beq lab.1 s.util with
  | true => exact ⟨lab, qs, hl, hc, hb⟩
  | false => rw [hb, if_neg Bool.false_ne_true] at ho; cases ho

theorem RowBase.after_fillCycle {p : Proc N} {e : Nat} {u : Util N} (h : RowBase p e u)
    (hn : (p.allUnits.map (·.name)).Nodup) (prog : List (Instr N)) :
    RowBase p (fillCycle p prog u e).2 (fillCycle p prog u e).1 := by
  obtain ⟨_, h'⟩ := fillCycle_induction p prog (fun u' _ e' => RowBase p e' u') u e
    (h.after_flush _)
    (fun d hd u' mem hu' => hu'.after_fillUnit hn prog hd mem)
    (fun u' mem e' ins port hu' _ hport husable =>
      hu'.after_issue hn (mem_allUnits_of_mem_inBoundary hport) husable.2.2)
  exact h'

theorem RowND.after_fillCycle {p : Proc N} {e : Nat} {u : Util N} (h : RowND u) (hb : RowBase p e u)
    (hn : (p.allUnits.map (·.name)).Nodup) (hpn : ∀ d ∈ p.dests, d.preds.Nodup)
    (hself : ∀ d ∈ p.dests, d.model.name ∉ d.preds) (prog : List (Instr N)) :
    RowND (fillCycle p prog u e).1 := by
  obtain ⟨_, h'⟩ := fillCycle_induction p prog (fun u' _ e' => RowBase p e' u' ∧ RowND u') u e
    ⟨hb.after_flush _, h.after_flush _⟩
    (fun d hd u' mem hu' => ⟨hu'.1.after_fillUnit hn prog hd mem, hu'.2.after_fillUnit prog (hpn d hd) (hself d hd) mem⟩)
    (fun u' mem e' ins port hu' _ hport husable =>
      ⟨hu'.1.after_issue hn (mem_allUnits_of_mem_inBoundary hport) husable.2.2, hu'.2.after_issue hu'.1 port.name⟩)
  exact h'.2

/-- `runCycle` fills, relabels and only then decides between `.ok (some s')` and the stall `.ok none`; stated under
`labelAll … = .ok lab`, the per-cycle facts serve the recorded cycles and the unrecorded one that detects a stall. -/
theorem RowBase.after_cycle {p : Proc N} {prog : List (Instr N)} {old : Util N} {e : Nat} {units : List (UnitM N)}
    {qs : Queues N} {lab : Util N × List (N × Nat)} (h : RowBase p e old) (hn : (p.allUnits.map (·.name)).Nodup)
    (hlab : labelAll units prog qs old (fillCycle p prog old e).1 = .ok lab) :
    RowBase p (fillCycle p prog old e).2 lab.1 :=
  have hfill := h.after_fillCycle hn prog
  hfill.of_sublist (by rw [labelAll_keys hlab]; exact hfill.keys_nodup)
    (fun n => labelAll_get_idx hlab n ▸ List.Sublist.refl _)

theorem RowND.after_cycle {p : Proc N} {prog : List (Instr N)} {old : Util N} {e : Nat} {units : List (UnitM N)}
    {qs : Queues N} {lab : Util N × List (N × Nat)} (h : RowND old) (hb : RowBase p e old)
    (hs : structOK p = true) (hlab : labelAll units prog qs old (fillCycle p prog old e).1 = .ok lab) :
    RowND lab.1 :=
  (h.after_fillCycle hb (structOK_nodup_names hs) (structOK_preds_nodup hs) (structOK_self_not_pred hs) prog).of_sublist
    (fun n => labelAll_get_idx hlab n ▸ List.Sublist.refl _)

theorem BaseInv.step {p : Proc N} {prog : List (Instr N)} (hn : (p.allUnits.map (·.name)).Nodup)
    {s s' : SimState N} (h : BaseInv p prog s) (hs : runCycle p prog s = .ok (some s')) : BaseInv p prog s' := by
  obtain ⟨lab, qs, hlab, _, _, rfl⟩ := runCycle_eq_some hs
  have hrow := h.row.after_cycle hn hlab
  refine ⟨fillCycle_entered_le p prog _ _ h.entered_le, rfl, hrow, ?_⟩
  intro r hr
  rcases List.mem_cons.1 hr with e | e
  · subst e; exact hrow
  · exact (h.rows r e).mono (fillCycle_entered_ge p prog _ _)

theorem CoreInv.step {p : Proc N} {prog : List (Instr N)} (hs : structOK p = true)
    {s s' : SimState N} (h : CoreInv p prog s) (hr : runCycle p prog s = .ok (some s')) : CoreInv p prog s' := by
  have hb := h.toBaseInv.step (structOK_nodup_names hs) hr
  obtain ⟨lab, qs, hlab, _, _, rfl⟩ := runCycle_eq_some hr
  have hnd := h.nd.after_cycle h.row hs hlab
  refine ⟨hb, hnd, ?_⟩
  intro r hr
  rcases List.mem_cons.1 hr with e | e
  · subst e; exact hnd
  · exact h.nds r e

theorem runCycle_error_cases {p : Proc N} {prog : List (Instr N)} {s : SimState N} {f : Fault}
    (h : runCycle p prog s = .error f) :
    f = .queueEmpty ∨ f = .badDequeue ∨
    (f = .noUnit ∧ ∃ e ∈ AMap.toList (fillCycle p prog s.util s.entered).1, e.2 ≠ [] ∧ lookupUnit p.allUnits e.1 = none) ∨
    (f = .badIndex ∧ ∃ e ∈ AMap.toList (fillCycle p prog s.util s.entered).1, ∃ x ∈ e.2, prog[x.idx]? = none) := by
  unfold runCycle at h
  simp only at h
  cases hl : labelAll p.allUnits prog s.queues s.util (fillCycle p prog s.util s.entered).1 with
  | error f' =>
    simp only [hl] at h; cases h
    rcases labelAll_error hl with e | e | e
    · exact Or.inl e
    · exact Or.inr (Or.inr (Or.inl e))
    · exact Or.inr (Or.inr (Or.inr e))
  | ok lab =>
    simp only [hl] at h
    cases hc : applyClears s.queues lab.2 with
    | error f' => simp only [hc] at h; cases h; exact Or.inr (Or.inl (applyClears_error hc))
    | ok qs =>
      simp only [hc] at h
      split at h <;> cases h

theorem runCycle_error_ne_fuel {p : Proc N} {prog : List (Instr N)} {s : SimState N} {f : Fault}
    (h : runCycle p prog s = .error f) : f ≠ .fuel := by
  rcases runCycle_error_cases h with e | e | ⟨e, _⟩ | ⟨e, _⟩ <;> rw [e] <;> decide

theorem runCycle_no_noUnit_badIndex {p : Proc N} {prog : List (Instr N)} (hn : (p.allUnits.map (·.name)).Nodup)
    {s : SimState N} (hs : BaseInv p prog s) {f : Fault} (h : runCycle p prog s = .error f) :
    f = .queueEmpty ∨ f = .badDequeue := by
  have hrow := hs.row.after_fillCycle hn prog
  have hle := fillCycle_entered_le p prog s.util s.entered hs.entered_le
  rcases runCycle_error_cases h with e | e | ⟨_, e, he, hne, hl⟩ | ⟨_, e, he, x, hx, hp⟩
  · exact Or.inl e
  · exact Or.inr e
  · exfalso
    obtain ⟨n, l⟩ := e
    have hg := Util.get_of_mem hrow.keys_nodup he
    have := hrow.names n (by rw [hg]; exact hne)
    exact (lookupUnit_eq_none_iff.1 hl) this
  · exfalso
    obtain ⟨n, l⟩ := e
    have hg := Util.get_of_mem hrow.keys_nodup he
    have hlt := hrow.idx_lt n x (by rw [hg]; exact hx)
    rw [List.getElem?_eq_none_iff] at hp
    omega

/-! `SimState.table` is newest first (`runCycle_table`); a diagram is the reverse of a table. So for a table of `k`
rows, row `t` of the diagram is `table[k - 1 - t]`, and the rows before it are `table.drop (k - t)`. -/

/-- `k` successful cycles lead from `s` to `s'` -/
inductive Steps (p : Proc N) (prog : List (Instr N)) : Nat → SimState N → SimState N → Prop
  | refl (s : SimState N) : Steps p prog 0 s s
  | cons {k : Nat} {s s₁ s' : SimState N} :
      runCycle p prog s = .ok (some s₁) → Steps p prog k s₁ s' → Steps p prog (k + 1) s s'

theorem Steps.inv {p : Proc N} {prog : List (Instr N)} {Inv : SimState N → Prop}
    (hstep : ∀ s s', Inv s → runCycle p prog s = .ok (some s') → Inv s') {k : Nat} {s s' : SimState N}
    (h : Steps p prog k s s') (hs : Inv s) : Inv s' := by
  induction h with
  | refl s => exact hs
  | cons hr _ ih => exact ih (hstep _ _ hs hr)

theorem Steps.table_length {p : Proc N} {prog : List (Instr N)} {k : Nat} {s s' : SimState N}
    (h : Steps p prog k s s') : s'.table.length = s.table.length + k := by
  induction h with
  | refl s => rfl
  | cons hr _ ih =>
    obtain ⟨lab, qs, _, _, _, e⟩ := runCycle_eq_some hr
    rw [ih, e, List.length_cons]; omega

/-- how a run of `simLoop` ends, after `k` successful cycles that led to `s'` -/
inductive SimEnd (p : Proc N) (prog : List (Instr N)) (fuel k : Nat) (s' : SimState N) : Outcome N → Prop
  | done : s'.finished prog = true → k ≤ fuel → SimEnd p prog fuel k s' (.done s'.table.reverse)
  | stall : s'.finished prog = false → k < fuel → runCycle p prog s' = .ok none →
      SimEnd p prog fuel k s' (.stall s'.table.reverse)
  | fault {f : Fault} : s'.finished prog = false → k < fuel → runCycle p prog s' = .error f →
      SimEnd p prog fuel k s' (.fault f)
  | fuel : s'.finished prog = false → k = fuel → SimEnd p prog fuel k s' (.fault .fuel)

theorem SimEnd.succ {p : Proc N} {prog : List (Instr N)} {fuel k : Nat} {s' : SimState N} {o : Outcome N}
    (h : SimEnd p prog fuel k s' o) : SimEnd p prog (fuel + 1) (k + 1) s' o := by
  cases h with
  | done hf hk => exact .done hf (by omega)
  | stall hf hk hr => exact .stall hf (by omega) hr
  | fault hf hk hr => exact .fault hf (by omega) hr
  | fuel hf hk => exact .fuel hf (by omega)

theorem simLoop_end (p : Proc N) (prog : List (Instr N)) :
    ∀ fuel s, ∃ k s', Steps p prog k s s' ∧ SimEnd p prog fuel k s' (simLoop p prog fuel s) := by
  intro fuel
  induction fuel with
  | zero =>
    intro s
    refine ⟨0, s, .refl s, ?_⟩
    unfold simLoop
    cases hf : s.finished prog with
    | true => exact .done hf (Nat.le_refl _)
    | false => exact .fuel hf rfl
  | succ fuel ih =>
    intro s
    unfold simLoop
    cases hf : s.finished prog with
    | true => exact ⟨0, s, .refl s, .done hf (Nat.zero_le _)⟩
    | false =>
      simp only [Bool.false_eq_true, if_false]
      cases hr : runCycle p prog s with
      | error f => exact ⟨0, s, .refl s, .fault hf (Nat.succ_pos _) hr⟩
      | ok o =>
        cases o with
        | none => exact ⟨0, s, .refl s, .stall hf (Nat.succ_pos _) hr⟩
        | some s₁ =>
          obtain ⟨k, s', hk, he⟩ := ih s₁
          exact ⟨k + 1, s', .cons hr hk, he.succ⟩

theorem Diagram_steps {p : Proc N} {prog : List (Instr N)} {tbl : List (Util N)} {stalled : Bool}
    (hd : Diagram p prog tbl stalled) :
    ∃ k s, Steps p prog k (initState prog) s ∧ tbl = s.table.reverse ∧
      (stalled = true → runCycle p prog s = .ok none) ∧ (stalled = false → s.finished prog = true) := by
  obtain ⟨k, s, hk, he⟩ := simLoop_end p prog (cycleBound p prog) (initState prog)
  rcases hd with ⟨rfl, hd⟩ | ⟨rfl, hd⟩ <;> rw [show simLoop p prog _ _ = _ from hd] at he <;> cases he
  · exact ⟨k, s, hk, rfl, Bool.noConfusion, fun _ => ‹_›⟩
  · exact ⟨k, s, hk, rfl, fun _ => ‹_›, Bool.noConfusion⟩

/-- Lifting principle: an invariant of `runCycle` holds of the state whose reversed table a diagram is. -/
theorem simulate_induction {p : Proc N} {prog : List (Instr N)} (Inv : SimState N → Prop)
    (h0 : Inv (initState prog))
    (hstep : ∀ s s', Inv s → runCycle p prog s = .ok (some s') → Inv s') :
    ∀ tbl stalled, Diagram p prog tbl stalled →
      ∃ s, Inv s ∧ tbl = s.table.reverse ∧ (stalled = true → runCycle p prog s = .ok none) ∧
        (stalled = false → s.finished prog = true) := by
  intro tbl stalled hd
  obtain ⟨k, s, hk, hrest⟩ := Diagram_steps hd
  exact ⟨s, hk.inv hstep h0, hrest⟩

theorem simulate_fault {p : Proc N} {prog : List (Instr N)} (Inv : SimState N → Prop)
    (h0 : Inv (initState prog))
    (hstep : ∀ s s', Inv s → runCycle p prog s = .ok (some s') → Inv s') {f : Fault}
    (h : simulate p prog = .fault f) : f = .fuel ∨ ∃ s, Inv s ∧ runCycle p prog s = .error f := by
  obtain ⟨k, s, hk, he⟩ := simLoop_end p prog (cycleBound p prog) (initState prog)
  rw [show simLoop p prog _ _ = _ from h] at he
  cases he with
  | fault _ _ hr => exact Or.inr ⟨s, hk.inv hstep h0, hr⟩
  | fuel _ _ => exact Or.inl rfl

theorem runCycle_table {p : Proc N} {prog : List (Instr N)} {s s' : SimState N}
    (h : runCycle p prog s = .ok (some s')) : s'.table = s'.util :: s.table := by
  obtain ⟨lab, qs, _, _, _, rfl⟩ := runCycle_eq_some h
  rfl

theorem Steps.table_eq {p : Proc N} {prog : List (Instr N)} {k : Nat} {s s' : SimState N}
    (h : Steps p prog k s s') : s.table = s'.table.drop k := by
  induction h with
  | refl s => rfl
  | cons hr _ ih =>
    rw [← List.tail_drop, ← ih, runCycle_table hr, List.tail_cons]

theorem Steps.split {p : Proc N} {prog : List (Instr N)} {k : Nat} {s s' : SimState N}
    (h : Steps p prog k s s') : ∀ t, t < k →
      ∃ s₀ s₁, Steps p prog t s s₀ ∧ runCycle p prog s₀ = .ok (some s₁) ∧ Steps p prog (k - t - 1) s₁ s' := by
  induction h with
  | refl s => intro t ht; exact absurd ht (Nat.not_lt_zero t)
  | @cons k s s₁ s' hr hk ih =>
    intro t ht
    cases t with
    | zero => exact ⟨s, s₁, .refl s, hr, hk⟩
    | succ t =>
      obtain ⟨s₀, s₂, h0, hr', h2⟩ := ih t (by omega)
      exact ⟨s₀, s₂, .cons hr h0, hr', by rwa [Nat.add_sub_add_right]⟩

theorem Steps.snoc {p : Proc N} {prog : List (Instr N)} {k : Nat} {s s₁ s' : SimState N}
    (h : Steps p prog k s s₁) (hr : runCycle p prog s₁ = .ok (some s')) : Steps p prog (k + 1) s s' := by
  induction h with
  | refl s => exact .cons hr (.refl _)
  | cons hr0 _ ih => exact .cons hr0 (ih hr)

theorem Steps.row {p : Proc N} {prog : List (Instr N)} {k : Nat} {sN : SimState N}
    (hk : Steps p prog k (initState prog) sN) {t : Nat} (ht : t < sN.table.length) :
    ∃ s₀ s₁, Steps p prog t (initState prog) s₀ ∧ runCycle p prog s₀ = .ok (some s₁) ∧
      s₀.table = (sN.table.reverse.take t).reverse ∧ s₁.table = (sN.table.reverse.take (t + 1)).reverse ∧
      s₁.util = sN.table.reverse.getD t ([] : List (N × List HI)) := by
  have hlen : sN.table.length = k := by rw [hk.table_length]; exact Nat.zero_add k
  rw [hlen] at ht
  obtain ⟨s₀, s₁, h0t, hr, h1⟩ := hk.split t ht
  have e0 : s₀.table = sN.table.drop (k - t) := by
    rw [(Steps.cons hr h1).table_eq]; congr 1; omega
  have e1 : s₁.table = sN.table.drop (k - (t + 1)) := h1.table_eq
  have take_eq : ∀ j, (sN.table.reverse.take j).reverse = sN.table.drop (k - j) := fun j => by
    rw [List.reverse_take, List.reverse_reverse, List.length_reverse, hlen]
  have row_t : sN.table.reverse.getD t ([] : List (N × List HI)) = s₁.util := by
    have head : s₁.table[0]? = some s₁.util := by rw [runCycle_table hr]; rfl
    rw [e1, List.getElem?_drop] at head
    rw [List.getD_eq_getElem?_getD, List.getElem?_reverse (by omega), hlen,
      show k - 1 - t = k - (t + 1) + 0 by omega, head]
    rfl
  exact ⟨s₀, s₁, h0t, hr, by rw [e0, take_eq], by rw [e1, take_eq], row_t.symm⟩

/-- Per-row lifting principle: row `t` of a diagram was recorded by a successful cycle from an `Inv`-state whose table
holds exactly the rows before `t`. -/
theorem simulate_rows {p : Proc N} {prog : List (Instr N)} (Inv : SimState N → Prop) (h0 : Inv (initState prog))
    (hstep : ∀ s s', Inv s → runCycle p prog s = .ok (some s') → Inv s') :
    ∀ tbl stalled, Diagram p prog tbl stalled → ∀ t, t < tbl.length →
      ∃ s s', Inv s ∧ s.table = (tbl.take t).reverse ∧ runCycle p prog s = .ok (some s') ∧
        s'.util = tbl.getD t ([] : List (N × List HI)) ∧ s'.table = (tbl.take (t + 1)).reverse := by
  intro tbl stalled hd t ht
  obtain ⟨k, sN, hk, rfl, _⟩ := Diagram_steps hd
  obtain ⟨s₀, s₁, h0t, hr, e0, e1, hu⟩ := hk.row (by rwa [List.length_reverse] at ht)
  exact ⟨s₀, s₁, h0t.inv hstep h0, e0, hr, hu, e1⟩

/-- Adjacent-cycle principle: a relation `R` between the records before and after every successful cycle holds between
consecutive rows of every diagram. -/
theorem simulate_adjacent {p : Proc N} {prog : List (Instr N)} (Inv : SimState N → Prop)
    (h0 : Inv (initState prog))
    (hstep : ∀ s s', Inv s → runCycle p prog s = .ok (some s') → Inv s')
    (hutil : ∀ s, Inv s → s.util = s.table.head?.getD ([] : List (N × List HI)))
    (R : Util N → Util N → Prop)
    (hR : ∀ s s', Inv s → runCycle p prog s = .ok (some s') → R s.util s'.util) :
    ∀ tbl stalled, Diagram p prog tbl stalled →
      ∀ t, t < tbl.length → R (prevRow tbl t) (tbl.getD t ([] : List (N × List HI))) := by
  intro tbl stalled hd t ht
  obtain ⟨s, s', hs, htab, hr, hu, _⟩ := simulate_rows Inv h0 hstep tbl stalled hd t ht
  rw [← hu, ← head?_reverse_take tbl (Nat.le_of_lt ht), ← htab, ← hutil s hs]
  exact hR s s' hs hr

theorem Diagram_rowBase {p : Proc N} {prog : List (Instr N)} (hn : (p.allUnits.map (·.name)).Nodup)
    {tbl : List (Util N)} {stalled : Bool} (h : Diagram p prog tbl stalled) :
    ∃ e, e ≤ prog.length ∧ ∀ t, RowBase p e (tbl.getD t ([] : List (N × List HI))) := by
  obtain ⟨s, hs, rfl, _⟩ :=
    simulate_induction (BaseInv p prog) (BaseInv.init p prog) (fun _ _ hs hr => hs.step hn hr) tbl stalled h
  exact ⟨s.entered, hs.entered_le,
    forall_getD (RowBase.nil p _) (fun r hr => hs.rows r (List.mem_reverse.1 hr))⟩

theorem Diagram_rowND_struct {p : Proc N} {prog : List (Instr N)} (hs : structOK p = true)
    {tbl : List (Util N)} {stalled : Bool} (h : Diagram p prog tbl stalled) :
    ∀ t, RowND (tbl.getD t ([] : List (N × List HI))) := by
  obtain ⟨s, hi, rfl, _⟩ :=
    simulate_induction (CoreInv p prog) (CoreInv.init p prog) (fun _ _ hi hr => hi.step hs hr) tbl stalled h
  exact forall_getD RowND.nil (fun r hr => hi.nds r (List.mem_reverse.1 hr))

theorem Diagram_rowND {p : Proc N} {prog : List (Instr N)} (hwf : wfProc p = true)
    {tbl : List (Util N)} {stalled : Bool} (h : Diagram p prog tbl stalled) :
    ∀ t, RowND (tbl.getD t ([] : List (N × List HI))) :=
  Diagram_rowND_struct (structOK_of_wfProc hwf) h

/-- At most one memory entry in the fill phase of a cycle (moves and issues together): the threaded flag bounds the
count. -/
theorem fillCycle_memNew_le_one {p : Proc N} (hn : (p.allUnits.map (·.name)).Nodup) (prog : List (Instr N))
    (old : Util N) (e : Nat) : memNew prog p.allUnits old (fillCycle p prog old e).1 ≤ 1 := by
  obtain ⟨mem', h⟩ := fillCycle_induction p prog (fun u mem _ => memNew prog p.allUnits old u ≤ mem.toNat) old e
    (by rw [memNew_flush]; exact Nat.zero_le _)
    (by
      intro d hd u mem hu
      have hstep := memNew_step prog hn old (u := u) (u' := (fillUnit prog d u mem).1) d.model
        (model_mem_allUnits_of_mem_dests hd)
        ((unitTaken prog d u mem).map (fun c => (⟨c.2, .U⟩ : HI)))
        (by intro n hne; have := fillUnit_get_sublist prog d u mem n; rwa [if_neg hne] at this)
        (by have := fillUnit_get_sublist prog d u mem d.model.name; rwa [if_pos rfl] at this)
      have hcnt : (((unitTaken prog d u mem).map (fun c => (⟨c.2, .U⟩ : HI))).filter
          (fun h => capIn prog h.idx d.model.acl)).length =
          ((unitTaken prog d u mem).filter (fun c => capIn prog c.2 d.model.acl)).length := by
        rw [List.filter_map, List.length_map]; rfl
      have hmem := fillUnit_mem prog d u mem
      omega)
    (by
      intro u mem e' ins port hu hins hport husable
      have hstep := memNew_step prog hn old (u := u) (u' := u.set port.name (u.get port.name ++ [⟨e', .U⟩])) port
        (mem_allUnits_of_mem_inBoundary hport) [⟨e', .U⟩]
        (by intro n hne; rw [Util.get_set_ne _ _ hne]; exact List.Sublist.refl _)
        (by rw [Util.get_set_eq]; exact List.Sublist.refl _)
      have hcap : capIn prog e' port.acl = decide (ins.cap ∈ port.acl) := by simp [capIn, hins]
      rw [length_filter_cons, List.filter_nil, List.length_nil, Nat.add_zero, hcap] at hstep
      rw [toNat_or_of_and_eq_false husable.2.1]
      omega)
  have : mem'.toNat ≤ 1 := by cases mem' <;> simp
  omega

theorem runCycle_memNew_le_one {p : Proc N} (hn : (p.allUnits.map (·.name)).Nodup) {prog : List (Instr N)}
    {s s' : SimState N} (hs : runCycle p prog s = .ok (some s')) :
    memNew prog p.allUnits s.util s'.util ≤ 1 := by
  obtain ⟨lab, qs, hlab, _, _, rfl⟩ := runCycle_eq_some hs
  simp only
  rw [memNew_congr prog p.allUnits s.util (labelAll_get_idx hlab)]
  exact fillCycle_memNew_le_one hn prog s.util s.entered

theorem Diagram_memNew_le_one {p : Proc N} (hn : (p.allUnits.map (·.name)).Nodup) {prog : List (Instr N)}
    {tbl : List (Util N)} {stalled : Bool} (h : Diagram p prog tbl stalled) :
    ∀ t, t < tbl.length →
      memNew prog p.allUnits (prevRow tbl t) (tbl.getD t ([] : List (N × List HI))) ≤ 1 :=
  simulate_adjacent (BaseInv p prog) (BaseInv.init p prog) (fun _ _ hs hr => hs.step hn hr)
    (fun _ hs => hs.util_eq) (fun old new => memNew prog p.allUnits old new ≤ 1)
    (fun _ _ _ hr => runCycle_memNew_le_one hn hr) tbl stalled h

end ProcSim
