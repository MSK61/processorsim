/-!
# Two results that agree

Two runs of a model function on related inputs *agree* when both succeed with related values or both fail with
related errors: `ExRel2 R S`. `ExRel R` is `ExRel2 R Eq` (`exRel_iff`); the re-casing theorems (C13) are stated
with it. `OrderIndep.Agree R` is `ExRel R` again (`agree_iff`): the iteration-order theorems (C20) speak of two
loads that agree and are stated in their own namespace, so the relation has a name there too; its `cases` and `refl`
are those of `ExRel`.

The model chains its stages as `match x with | .error e => .error (f e) | .ok a => k a`. Agreement of `x` and `y`
is carried through such a chain by case analysis *on the agreement* (`ExRel2.cases`, `ExRel.cases`): only the two
diagonal cases are left, and in each the `match` reduces.
-/
namespace ProcSim

namespace Recase
variable {ε ε' α : Type}

def ExRel2 {ε α : Type} (R : ε → ε → Prop) (S : α → α → Prop) : Except ε α → Except ε α → Prop
  | .ok a, .ok b => S a b
  | .error e, .error e' => R e e'
  | _, _ => False

def ExRel {ε α : Type} (R : ε → ε → Prop) : Except ε α → Except ε α → Prop
  | .ok a, .ok b => a = b
  | .error e, .error e' => R e e'
  | _, _ => False

@[elab_as_elim]
theorem ExRel2.cases {R : ε → ε → Prop} {S : α → α → Prop} {motive : Except ε α → Except ε α → Prop}
    {x y : Except ε α} (h : ExRel2 R S x y) (error : ∀ e e', R e e' → motive (.error e) (.error e'))
    (ok : ∀ a b, S a b → motive (.ok a) (.ok b)) : motive x y := by
  cases x <;> cases y
  · exact error _ _ h
  · exact h.elim
  · exact h.elim
  · exact ok _ _ h

theorem exRel_iff {R : ε → ε → Prop} {x y : Except ε α} : ExRel R x y ↔ ExRel2 R Eq x y := by
  cases x <;> cases y <;> exact Iff.rfl

@[elab_as_elim]
theorem ExRel.cases {R : ε → ε → Prop} {motive : Except ε α → Except ε α → Prop} {x y : Except ε α}
    (h : ExRel R x y) (error : ∀ e e', R e e' → motive (.error e) (.error e')) (ok : ∀ a, motive (.ok a) (.ok a)) :
    motive x y :=
  (exRel_iff.1 h).cases error (fun a _ hab => hab ▸ ok a)

theorem ExRel.refl {R : ε → ε → Prop} (hR : ∀ e, R e e) (x : Except ε α) : ExRel R x x := by
  cases x with
  | ok a => exact rfl
  | error e => exact hR e

theorem ExRel.toOption_eq {R : ε → ε → Prop} {x y : Except ε α} (h : ExRel R x y) : x.toOption = y.toOption :=
  h.cases (fun _ _ _ => rfl) (fun _ => rfl)

theorem ExRel.isOk_eq {R : ε → ε → Prop} {x y : Except ε α} (h : ExRel R x y) : x.isOk = y.isOk :=
  h.cases (fun _ _ _ => rfl) (fun _ => rfl)

theorem ExRel.mapError_eq {R : ε → ε → Prop} {x y : Except ε α} (h : ExRel R x y) {f : ε → ε'}
    (hf : ∀ e e', R e e' → f e = f e') : x.mapError f = y.mapError f :=
  h.cases (fun e e' hr => congrArg Except.error (hf e e' hr)) (fun _ => rfl)

end Recase

namespace OrderIndep
variable {ε α : Type}

/-- `Recase.ExRel R`, in the vocabulary of C20 -/
def Agree {ε α : Type} (R : ε → ε → Prop) : Except ε α → Except ε α → Prop
  | .ok a, .ok b => a = b
  | .error e, .error e' => R e e'
  | _, _ => False

theorem agree_iff {R : ε → ε → Prop} {x y : Except ε α} : Agree R x y ↔ Recase.ExRel R x y := by
  cases x <;> cases y <;> exact Iff.rfl

@[elab_as_elim]
theorem Agree.cases {R : ε → ε → Prop} {motive : Except ε α → Except ε α → Prop} {x y : Except ε α}
    (h : Agree R x y) (error : ∀ e e', R e e' → motive (.error e) (.error e')) (ok : ∀ a, motive (.ok a) (.ok a)) :
    motive x y :=
  (agree_iff.1 h).cases error ok

theorem Agree.refl {R : ε → ε → Prop} (hR : ∀ e, R e e) (x : Except ε α) : Agree R x x :=
  agree_iff.2 (Recase.ExRel.refl hR x)

end OrderIndep
end ProcSim
