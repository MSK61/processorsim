import ProcSim.Lemmas.SimCore
/-!
# Routes, core part: where every hosted instruction of a cycle comes from

Chains of a relation along a list (`Routes.Adjacent`). The processing order: a destination is filled before any of
its predecessors is refilled (`dests_order`), so every connection lowers the position in that order (`unitRank`). The
fill phase of a cycle, per hosted instruction: *stayed*, *moved* along a declared connection, or *issued* (`FillInv`,
`IssueInv`, `fillCycle_issueInv`). The two-row relation `Step`, proved for `runCycle` (`runCycle_step`).
`Ctx.positions`, `Ctx.isIn` and `Ctx.entersAt` characterised (`mem_positions`, `Ctx.isIn_iff`, `Ctx.entersAt_iff`).
`Lemmas/Routes.lean` builds the routes on top of this.
-/
namespace ProcSim
open Spec

attribute [local implicit_reducible] AMap

variable {N : Type} [DecidableEq N]

/-! `namespace Routes` holds the chain predicate `Adjacent` with its helpers, the reading of the checkers' list tests
`consec` and `pairsOK` as chains, and what `dests`, `predsOf` and `succsOf` give on a processor with unique names. -/

namespace Routes

/-- consecutive elements are related by `R` (Prop version of `Spec.pairsOK`) -/
def Adjacent {α : Type} (R : α → α → Prop) : List α → Prop
  | [] => True
  | [_] => True
  | a :: b :: rest => R a b ∧ Adjacent R (b :: rest)

theorem Adjacent.imp {α : Type} {R S : α → α → Prop} (h : ∀ a b, R a b → S a b) :
    ∀ {l : List α}, Adjacent R l → Adjacent S l
  | [], _ => trivial
  | [_], _ => trivial
  | _ :: b :: rest, ⟨h1, h2⟩ => ⟨h _ _ h1, Adjacent.imp h (l := b :: rest) h2⟩

theorem Adjacent.tail {α : Type} {R : α → α → Prop} {a : α} {l : List α} (h : Adjacent R (a :: l)) :
    Adjacent R l := by
  cases l with
  | nil => trivial
  | cons b rest => exact h.2

theorem Adjacent.of_append_left {α : Type} {R : α → α → Prop} :
    ∀ {l l' : List α}, Adjacent R (l ++ l') → Adjacent R l
  | [], _, _ => trivial
  | [_], _, _ => trivial
  | a :: b :: rest, l', h => by
    have h' : R a b ∧ Adjacent R (b :: (rest ++ l')) := h
    exact ⟨h'.1, Adjacent.of_append_left (l := b :: rest) (l' := l') h'.2⟩

theorem forall_of_adjacent {α : Type} {R : α → α → Prop} {P : α → Prop} (hR : ∀ a b, R a b → P a → P b) :
    ∀ {l : List α}, Adjacent R l → (∀ x, l.head? = some x → P x) → ∀ x ∈ l, P x
  | [], _, _ => by simp
  | [a], _, h0 => by
    intro x hx
    simp only [List.mem_singleton] at hx
    subst hx; exact h0 x rfl
  | a :: b :: rest, h, h0 => by
    intro x hx
    have ha : P a := h0 a rfl
    rcases List.mem_cons.1 hx with e | e
    · subst e; exact ha
    · exact forall_of_adjacent hR (l := b :: rest) h.2 (fun y hy => by
        simp only [List.head?_cons, Option.some.injEq] at hy
        rw [← hy]; exact hR a b h.1 ha) x e

theorem adjacent_map {α β : Type} (f : α → β) (R : β → β → Prop) :
    ∀ {l : List α}, Adjacent R (l.map f) ↔ Adjacent (fun a b => R (f a) (f b)) l
  | [] => Iff.rfl
  | [_] => Iff.rfl
  | a :: b :: rest => by
    have ih := adjacent_map f R (l := b :: rest)
    simp only [List.map_cons] at ih
    simp only [List.map_cons, Adjacent, ih]

theorem pairwise_of_adjacent_trans {α : Type} {R : α → α → Prop} (htrans : ∀ a b c, R a b → R b c → R a c) :
    ∀ {l : List α}, Adjacent R l → l.Pairwise R
  | [], _ => List.Pairwise.nil
  | [_], _ => by simp
  | a :: b :: rest, h => by
    have ih := pairwise_of_adjacent_trans htrans (l := b :: rest) h.2
    refine List.pairwise_cons.2 ⟨?_, ih⟩
    intro y hy
    rcases List.mem_cons.1 hy with e | e
    · rw [e]; exact h.1
    · exact htrans a b y h.1 ((List.pairwise_cons.1 ih).1 y e)

theorem adjacent_flatMap_range' {α : Type} (g : Nat → List α) (R : α → α → Prop) :
    ∀ (m f : Nat), (∀ t, f ≤ t → t < f + m → ∃ x, g t = [x]) →
      (∀ t a b, f ≤ t → t + 1 < f + m → a ∈ g t → b ∈ g (t + 1) → R a b) →
      Adjacent R ((List.range' f m).flatMap g)
  | 0, f, _, _ => trivial
  | 1, f, hs, _ => by
    obtain ⟨x, hx⟩ := hs f (Nat.le_refl _) (Nat.lt_succ_self f)
    rw [List.range'_succ, List.range'_zero, List.flatMap_cons, List.flatMap_nil, List.append_nil, hx]
    trivial
  | m + 2, f, hs, hr => by
    obtain ⟨a, ha⟩ := hs f (Nat.le_refl _) (by omega)
    obtain ⟨b, hb⟩ := hs (f + 1) (by omega) (by omega)
    have ih := adjacent_flatMap_range' g R (m + 1) (f + 1) (fun t h1 h2 => hs t (by omega) (by omega))
      (fun t a b h1 h2 => hr t a b (by omega) (by omega))
    rw [List.range'_succ, List.flatMap_cons, ha]
    rw [List.range'_succ, List.flatMap_cons, hb] at ih ⊢
    exact ⟨hr f a b (Nat.le_refl _) (by omega) (by rw [ha]; simp) (by rw [hb]; simp), ih⟩

theorem consec_iff_adjacent {α : Type} (f : α → Nat) :
    ∀ {l : List α}, consec (l.map f) = true ↔ Adjacent (fun a b => f b = f a + 1) l
  | [] => by simp [consec, Adjacent]
  | [_] => by simp [consec, Adjacent]
  | a :: b :: rest => by
    have ih := consec_iff_adjacent f (l := b :: rest)
    simp only [List.map_cons] at ih
    simp only [List.map_cons, consec, Bool.and_eq_true, decide_eq_true_eq, Adjacent, ih]

theorem pairsOK_iff_adjacent {α : Type} (f : α → α → Bool) :
    ∀ {l : List α}, pairsOK f l = true ↔ Adjacent (fun a b => f a b = true) l
  | [] => by simp [pairsOK, Adjacent]
  | [_] => by simp [pairsOK, Adjacent]
  | a :: b :: rest => by
    have ih := pairsOK_iff_adjacent f (l := b :: rest)
    simp only [pairsOK, Bool.and_eq_true, Adjacent, ih]

theorem pairsOK_map_range'_iff {α : Type} (f : α → α → Bool) (g : Nat → α) :
    ∀ k s, pairsOK f ((List.range' s k).map g) = true ↔ ∀ i, s ≤ i → i + 1 < s + k → f (g i) (g (i + 1)) = true
  | 0, s => ⟨fun _ i h1 h2 => absurd h2 (by omega), fun _ => rfl⟩
  | 1, s => ⟨fun _ i h1 h2 => absurd h2 (by omega), fun _ => rfl⟩
  | k + 2, s => by
    rw [List.range'_succ, List.range'_succ, List.map_cons, List.map_cons, pairsOK, Bool.and_eq_true, ← List.map_cons,
      ← List.range'_succ, pairsOK_map_range'_iff f g (k + 1) (s + 1)]
    constructor
    · rintro ⟨h0, ih⟩ i h1 h2
      rcases Nat.eq_or_lt_of_le h1 with e | hlt
      · subst e; exact h0
      · exact ih i hlt (by omega)
    · intro h
      exact ⟨h s (Nat.le_refl _) (by omega), fun i h1 h2 => h i (by omega) (by omega)⟩

theorem pairsOK_map_range_iff {α : Type} (f : α → α → Bool) (g : Nat → α) (k : Nat) :
    pairsOK f ((List.range k).map g) = true ↔ ∀ i, i + 1 < k → f (g i) (g (i + 1)) = true := by
  rw [List.range_eq_range', pairsOK_map_range'_iff]
  exact ⟨fun h i hi => h i (Nat.zero_le _) (by omega), fun h i _ hi => h i (by omega)⟩

section structure_
omit [DecidableEq N]

theorem dests_names_nodup {p : Proc N} (hn : (p.allUnits.map (·.name)).Nodup) :
    (p.dests.map (·.model.name)).Nodup := by
  refine List.Sublist.nodup ?_ hn
  simp only [Proc.dests, Proc.allUnits, List.map_append, List.map_map, List.append_assoc]
  exact (List.sublist_append_right _ _).trans (List.sublist_append_right _ _)

theorem outBoundary_nodup {p : Proc N} (hn : (p.allUnits.map (·.name)).Nodup) : p.outBoundary.Nodup := by
  refine List.Sublist.nodup ?_ hn
  simp only [Proc.outBoundary, Proc.allUnits, List.map_append, List.map_map, List.append_assoc]
  refine (List.Sublist.trans ?_ (List.sublist_append_right _ _))
  rw [← List.append_assoc]
  exact List.sublist_append_left _ _

end structure_

theorem destPos_of_split {p : Proc N} (hn : (p.allUnits.map (·.name)).Nodup) {pre post : List (FuncU N)}
    {d : FuncU N} (h : p.dests = pre ++ d :: post) : destPos p d.model.name = some pre.length := by
  have hnd := dests_names_nodup hn
  rw [h, List.map_append, List.map_cons, List.nodup_append] at hnd
  have hpre : pre.findIdx? (fun d' => decide (d'.model.name = d.model.name)) = none := by
    rw [List.findIdx?_eq_none_iff]
    intro x hx
    simp only [decide_eq_false_iff_not]
    intro e
    exact hnd.2.2 _ (List.mem_map.2 ⟨x, hx, rfl⟩) _ List.mem_cons_self e
  unfold destPos
  rw [h, List.findIdx?_append, hpre, List.findIdx?_cons]
  simp

/-- Processing order: when destination `d` is filled, none of its predecessors has been filled yet in this cycle. -/
theorem dests_order {p : Proc N} (hn : (p.allUnits.map (·.name)).Nodup) (ho : orderOK p = true)
    {pre post : List (FuncU N)} {d : FuncU N} (h : p.dests = pre ++ d :: post) :
    ∀ d' ∈ pre, d'.model.name ∉ d.preds := by
  intro d' hd' hq
  have hd : d ∈ p.dests := by rw [h]; simp
  obtain ⟨pre', post', hsplit⟩ := List.append_of_mem hd'
  have h' : p.dests = pre' ++ d' :: (post' ++ d :: post) := by rw [h, hsplit]; simp
  have hkq := destPos_of_split hn h'
  obtain ⟨kd, hkd, hlt⟩ := (orderOK_pred ho hd hq).2.2 _ hkq
  rw [destPos_of_split hn h] at hkd
  cases hkd
  have : pre.length = pre'.length + (post'.length + 1) := by rw [hsplit]; simp
  omega

theorem predsOf_of_mem {p : Proc N} (hn : (p.allUnits.map (·.name)).Nodup) {d : FuncU N} (hd : d ∈ p.dests) :
    predsOf p d.model.name = d.preds := by
  unfold predsOf
  cases hf : p.dests.find? (fun d' => decide (d'.model.name = d.model.name)) with
  | none =>
    rw [List.find?_eq_none] at hf
    have := hf d hd
    simp at this
  | some d' =>
    have h1 := List.mem_of_find?_eq_some hf
    have h2 : d'.model.name = d.model.name := by simpa using List.find?_some hf
    have : d' = d := eq_of_map_eq_of_nodup (fun x : FuncU N => x.model.name) (dests_names_nodup hn) h1 hd h2
    rw [this]

theorem mem_succsOf {p : Proc N} {n : N} {v : UnitM N} :
    v ∈ succsOf p n ↔ ∃ d ∈ p.dests, n ∈ d.preds ∧ d.model = v := by
  simp only [succsOf, List.mem_map, List.mem_filter, decide_eq_true_eq, and_assoc]

theorem mem_predsOf {p : Proc N} {n q : N} (h : q ∈ predsOf p n) : ∃ d ∈ p.dests, d.model.name = n ∧ q ∈ d.preds := by
  unfold predsOf at h
  split at h
  · next d hd =>
    exact ⟨d, List.mem_of_find?_eq_some hd, by simpa using List.find?_some hd, h⟩
  · cases h

end Routes
open Routes

/-- position of a unit in the processing order: destinations by their stored index (sinks first), all other units
(the pure input ports) last. It decreases along every connection; `Term.upos` (`Lemmas/Termination.lean`) counts from
the other end, so as to increase along them: see `Term.upos_eq`. -/
def unitRank (p : Proc N) (n : N) : Nat := (destPos p n).getD p.dests.length

theorem unitRank_le (p : Proc N) (n : N) : unitRank p n ≤ p.dests.length := by
  unfold unitRank
  cases h : destPos p n with
  | none => exact Nat.le_refl _
  | some k => exact Nat.le_of_lt (destPos_lt h)

/-- Every connection lowers the rank, so the connections form no cycle. -/
theorem unitRank_lt_of_mem_preds {p : Proc N} (ho : orderOK p = true) {d : FuncU N} (hd : d ∈ p.dests) {q : N}
    (hq : q ∈ d.preds) : unitRank p d.model.name < unitRank p q := by
  obtain ⟨kd, hkd⟩ := destPos_isSome_of_mem hd
  unfold unitRank
  rw [hkd]
  cases hkq : destPos p q with
  | none => exact destPos_lt hkd
  | some kq =>
    obtain ⟨kd', hkd', hlt⟩ := (orderOK_pred ho hd hq).2.2 kq hkq
    rw [hkd] at hkd'
    cases hkd'
    exact hlt

/-- `orderOK` from its intended reading: the destinations are listed sink-first. -/
theorem orderOK_of_sinkFirst {p : Proc N} (hn : (p.allUnits.map (·.name)).Nodup)
    (hpred : ∀ d ∈ p.dests, ∀ q ∈ d.preds, q ∈ p.allUnits.map (·.name) ∧ q ∉ p.outBoundary)
    (hpw : p.dests.Pairwise (fun a b => a.model.name ∉ b.preds))
    (hself : ∀ d ∈ p.dests, d.model.name ∉ d.preds) : orderOK p = true := by
  simp only [orderOK, List.all_eq_true, Bool.and_eq_true, decide_eq_true_eq, isOutB, Bool.not_eq_true',
    decide_eq_false_iff_not]
  intro d hd q hq
  refine ⟨hpred d hd q hq, ?_⟩
  obtain ⟨pre, post, hsplit⟩ := List.append_of_mem hd
  rw [destPos_of_split hn hsplit]
  cases hkq : destPos p q with
  | none => rfl
  | some kq =>
    simp only [decide_eq_true_eq]
    have hex : ∃ fq ∈ p.dests, fq.model.name = q := by
      unfold destPos at hkq
      obtain ⟨hlt, hp, _⟩ := List.findIdx?_eq_some_iff_getElem.1 hkq
      exact ⟨p.dests[kq], List.getElem_mem _, by simpa using hp⟩
    obtain ⟨fq, hfq, hfqn⟩ := hex
    rw [hsplit] at hpw
    obtain ⟨_, hdpost, hcross⟩ := List.pairwise_append.1 hpw
    have hnotpre : fq ∉ pre := by
      intro hm
      exact hcross fq hm d List.mem_cons_self (hfqn ▸ hq)
    have hned : fq ≠ d := by
      intro e; subst e
      exact hself fq hd (hfqn ▸ hq)
    have hpost : fq ∈ post := by
      rw [hsplit, List.mem_append, List.mem_cons] at hfq
      rcases hfq with h | h | h
      · exact absurd h hnotpre
      · exact absurd h hned
      · exact h
    obtain ⟨post1, post2, hs2⟩ := List.append_of_mem hpost
    have hsplit' : p.dests = (pre ++ d :: post1) ++ fq :: post2 := by rw [hsplit, hs2]; simp
    have := destPos_of_split hn hsplit'
    rw [hfqn, hkq] at this
    cases this
    simp only [List.length_append, List.length_cons]
    omega

/-- instruction `i` stayed in unit `n` (at the output boundary only data-stalled instructions stay) -/
def Stayed (p : Proc N) (old : Util N) (n : N) (i : Nat) : Prop :=
  ∃ y ∈ old.get n, y.idx = i ∧ (n ∈ p.outBoundary → y.st = .D)

/-- instruction `i` came to unit `n` along a declared connection, from a unit where it was not data-stalled -/
def Moved (p : Proc N) (prog : List (Instr N)) (old : Util N) (n : N) (i : Nat) : Prop :=
  ∃ d ∈ p.dests, d.model.name = n ∧ ∃ q ∈ d.preds, ∃ y ∈ old.get q, y.idx = i ∧ y.st ≠ .D ∧
    capIn prog i d.model.caps = true

def Issued (p : Proc N) (prog : List (Instr N)) (e e' : Nat) (n : N) (i : Nat) : Prop :=
  e ≤ i ∧ i < e' ∧ ∃ port ∈ p.inBoundary, port.name = n ∧ capIn prog i port.caps = true

/-- Invariant of the move phase; `done` = names of the destinations filled so far. -/
structure FillInv (p : Proc N) (prog : List (Instr N)) (old : Util N) (done : List N) (u : Util N) : Prop where
  untouched : ∀ n, n ∉ done → ∀ x ∈ u.get n, x ∈ old.get n
  origin : ∀ n x, x ∈ u.get n → Stayed p old n x.idx ∨ Moved p prog old n x.idx
  alive : ∀ n y, y ∈ old.get n → (n ∉ p.outBoundary ∨ y.st = .D) → ∃ n', y.idx ∈ (u.get n').map (·.idx)

theorem FillInv.after_flush (p : Proc N) (prog : List (Instr N)) (old : Util N) :
    FillInv p prog old [] (flushOutputs p.outBoundary old) := by
  refine ⟨?_, ?_, ?_⟩
  · intro n _ x hx
    exact (flushOutputs_get_sublist _ _ _).subset hx
  · intro n x hx
    left
    refine ⟨x, (flushOutputs_get_sublist _ _ _).subset hx, rfl, ?_⟩
    intro hn
    rw [flushOutputs_get, if_pos hn] at hx
    simpa using (List.mem_filter.1 hx).2
  · intro n y hy hcond
    refine ⟨n, List.mem_map.2 ⟨y, ?_, rfl⟩⟩
    rw [flushOutputs_get]
    split
    · next hn =>
      rcases hcond with h | h
      · exact absurd hn h
      · exact List.mem_filter.2 ⟨hy, by simp [h]⟩
    · exact hy

theorem FillInv.after_fillUnit {p : Proc N} {prog : List (Instr N)} {old : Util N} {done done' : List N}
    {u : Util N} (h : FillInv p prog old done u) {d : FuncU N} (hd : d ∈ p.dests)
    (hself : d.model.name ∉ d.preds) (hpreds : ∀ q ∈ d.preds, q ∉ done)
    (hdone : ∀ n, n ∉ done' → n ∉ done ∧ d.model.name ≠ n) (mem : Bool) :
    FillInv p prog old done' (fillUnit prog d u mem).1 := by
  have hsub := fillUnit_get_sublist prog d u mem
  refine ⟨?_, ?_, ?_⟩
  · -- a unit not yet filled is not `d`: filling `d` can only have removed from it
    intro n hn x hx
    obtain ⟨h1, h2⟩ := hdone n hn
    have := (hsub n).subset hx
    rw [if_neg h2] at this
    exact h.untouched n h1 x this
  · -- what `d` takes comes from a predecessor, which is `untouched`: there it is as in `old`, and not `D`
    intro n x hx
    have hx' := (hsub n).subset hx
    by_cases hdn : d.model.name = n
    · rw [if_pos hdn, List.mem_append] at hx'
      rcases hx' with hx' | hx'
      · exact h.origin n x hx'
      · right
        obtain ⟨c, hc, rfl⟩ := List.mem_map.1 hx'
        obtain ⟨hq, y, hy, hv, he⟩ := mem_unitTaken hc
        have hy' := h.untouched c.1 (hpreds c.1 hq) y hy
        simp only [validCand, Bool.and_eq_true, bne_iff_ne, ne_eq] at hv
        refine ⟨d, hd, hdn, c.1, hq, y, hy', he, hv.1, ?_⟩
        simp only
        rw [← he]; exact hv.2
    · rw [if_neg hdn] at hx'
      exact h.origin n x hx'
  · -- an instruction hosted by `n'` before this step: still there if `n'` is `d` (`fillUnit_get_self`: `d` only
    -- gains) or if `d` did not take it; if `d` took it, it is in `d` now
    intro n y hy hcond
    obtain ⟨n', hn'⟩ := h.alive n y hy hcond
    by_cases hdn : d.model.name = n'
    · refine ⟨n', ?_⟩
      rw [← hdn, fillUnit_get_self prog d u mem hself, List.map_append, List.mem_append]
      left; rw [hdn]; exact hn'
    · obtain ⟨x, hx, hxi⟩ := List.mem_map.1 hn'
      by_cases htk : (unitTaken prog d u mem).any (fun m => m.1 == n' && m.2 == x.idx) = true
      · obtain ⟨c, hc, hce⟩ := List.any_eq_true.1 htk
        simp only [Bool.and_eq_true, beq_iff_eq] at hce
        refine ⟨d.model.name, ?_⟩
        rw [fillUnit_get_self prog d u mem hself, List.map_append, List.mem_append]
        right
        rw [List.map_map]
        exact List.mem_map.2 ⟨c, hc, by simp only [Function.comp]; rw [hce.2, hxi]⟩
      · refine ⟨n', List.mem_map.2 ⟨x, ?_, hxi⟩⟩
        rw [fillUnit_get_of_ne prog d u mem hdn]
        have hf := Bool.eq_false_iff.2 htk
        exact List.mem_filter.2 ⟨hx, by simp only [hf, Bool.not_false]⟩

theorem FillInv.after_moveFlights {p : Proc N} (prog : List (Instr N)) (old : Util N)
    (hn : (p.allUnits.map (·.name)).Nodup) (ho : orderOK p = true) :
    FillInv p prog old (p.dests.map (·.model.name)) (moveFlights p prog old).1 := by
  refine fillDests_induction_prefix prog (fun done u _ => FillInv p prog old (done.map (·.model.name)) u) p.dests
    ?_ p.dests [] _ false rfl (FillInv.after_flush p prog old)
  intro done d rest u mem hsplit h
  have hd : d ∈ p.dests := by rw [hsplit]; exact List.mem_append_right _ List.mem_cons_self
  refine h.after_fillUnit hd (orderOK_self_not_pred ho hd) ?_ ?_ mem
  · intro q hq hmem
    obtain ⟨d', hd', e⟩ := List.mem_map.1 hmem
    exact dests_order hn ho hsplit d' hd' (e ▸ hq)
  · intro n hn'
    simp only [List.map_append, List.map_cons, List.map_nil, List.mem_append, List.mem_singleton,
      not_or] at hn'
    exact ⟨hn'.1, fun e => hn'.2 e.symm⟩

/-- Invariant of the issue phase started with `e` entered instructions, now at `e'`. -/
structure IssueInv (p : Proc N) (prog : List (Instr N)) (old : Util N) (e : Nat) (u : Util N) (e' : Nat) :
    Prop where
  le : e ≤ e'
  origin : ∀ n x, x ∈ u.get n → Stayed p old n x.idx ∨ Moved p prog old n x.idx ∨ Issued p prog e e' n x.idx
  alive : ∀ n y, y ∈ old.get n → (n ∉ p.outBoundary ∨ y.st = .D) → ∃ n', y.idx ∈ (u.get n').map (·.idx)
  hosted : ∀ i, e ≤ i → i < e' → ∃ n, i ∈ (u.get n).map (·.idx)

theorem Issued.mono {p : Proc N} {prog : List (Instr N)} {e e' e'' : Nat} {n : N} {i : Nat}
    (h : Issued p prog e e' n i) (hle : e' ≤ e'') : Issued p prog e e'' n i :=
  ⟨h.1, Nat.lt_of_lt_of_le h.2.1 hle, h.2.2⟩

theorem IssueInv.of_fillInv {p : Proc N} {prog : List (Instr N)} {old : Util N} {done : List N} {u : Util N}
    (h : FillInv p prog old done u) (e : Nat) : IssueInv p prog old e u e :=
  ⟨Nat.le_refl _, fun n x hx => (h.origin n x hx).elim Or.inl (fun m => Or.inr (Or.inl m)), h.alive,
    fun i h1 h2 => by omega⟩

theorem IssueInv.after_issue {p : Proc N} {prog : List (Instr N)} {old : Util N} {e e' : Nat} {u : Util N}
    (h : IssueInv p prog old e u e') {ins : Instr N} (hins : prog[e']? = some ins) {port : UnitM N}
    (hport : port ∈ p.inBoundary) (hcap : ins.cap ∈ port.caps) :
    IssueInv p prog old e (u.set port.name (u.get port.name ++ [⟨e', .U⟩])) (e' + 1) := by
  have hle := h.le
  refine ⟨by omega, ?_, ?_, ?_⟩
  · intro n x hx
    rw [Util.get_set] at hx
    have old_case : x ∈ u.get n → Stayed p old n x.idx ∨ Moved p prog old n x.idx ∨ Issued p prog e (e' + 1) n x.idx := by
      intro hx
      rcases h.origin n x hx with a | a | a
      · exact Or.inl a
      · exact Or.inr (Or.inl a)
      · exact Or.inr (Or.inr (a.mono (by omega)))
    by_cases hpn : port.name = n
    · rw [if_pos hpn, List.mem_append] at hx
      rcases hx with hx | hx
      · exact old_case (hpn ▸ hx)
      · simp only [List.mem_singleton] at hx
        subst hx
        refine Or.inr (Or.inr ⟨hle, by simp, port, hport, hpn, ?_⟩)
        simp [capIn, hins, hcap]
    · rw [if_neg hpn] at hx; exact old_case hx
  · intro n y hy hcond
    obtain ⟨n', hn'⟩ := h.alive n y hy hcond
    refine ⟨n', ?_⟩
    rw [Util.get_set]
    split
    · next hpn => rw [List.map_append, List.mem_append]; left; rw [hpn]; exact hn'
    · exact hn'
  · intro i h1 h2
    by_cases hi : i < e'
    · obtain ⟨n, hn'⟩ := h.hosted i h1 hi
      refine ⟨n, ?_⟩
      rw [Util.get_set]
      split
      · next hpn => rw [List.map_append, List.mem_append]; left; rw [hpn]; exact hn'
      · exact hn'
    · have : i = e' := by omega
      subst this
      refine ⟨port.name, ?_⟩
      rw [Util.get_set_eq]; simp

/-- Two-row relation between a record `old` (`e` entered instructions) and the next record `new` (`e'` entered): where
every hosted instruction of `new` comes from and what label it then has; an instruction disappears only from the output
boundary and only when not data-stalled; every instruction issued in the cycle is hosted. -/
structure Step (p : Proc N) (prog : List (Instr N)) (e : Nat) (old new : Util N) (e' : Nat) : Prop where
  le : e ≤ e'
  origin : ∀ n x, x ∈ new.get n →
    (∃ y ∈ old.get n, y.idx = x.idx ∧ (n ∈ p.outBoundary → y.st = .D) ∧ (x.st = .S ↔ y.st ≠ .D)) ∨
    (x.st ≠ .S ∧ (Moved p prog old n x.idx ∨ Issued p prog e e' n x.idx))
  vanish : ∀ n y, y ∈ old.get n → (∀ n', y.idx ∉ (new.get n').map (·.idx)) → n ∈ p.outBoundary ∧ y.st ≠ .D
  hosted : ∀ i, e ≤ i → i < e' → ∃ n, i ∈ (new.get n).map (·.idx)

theorem Step.of_labelAll {p : Proc N} {prog : List (Instr N)} {old F : Util N} {e e' : Nat}
    (hF : IssueInv p prog old e F e') (hb : RowBase p e old) (hnd : RowND old)
    (hself : ∀ d ∈ p.dests, d.model.name ∉ d.preds) {units : List (UnitM N)} {qs : Queues N}
    {lab : Util N × List (N × Nat)} (hlab : labelAll units prog qs old F = .ok lab) :
    Step p prog e old lab.1 e' := by
  have hidx := labelAll_get_idx hlab
  refine ⟨hF.le, ?_, ?_, ?_⟩
  · intro n x hx
    have hxi : x.idx ∈ (F.get n).map (·.idx) := by rw [← hidx n]; exact List.mem_map.2 ⟨x, hx, rfl⟩
    obtain ⟨x0, hx0, hx0i⟩ := List.mem_map.1 hxi
    have hS := labelAll_S_iff hlab hx
    rw [wasLoaded_iff] at hS
    rcases hF.origin n x0 hx0 with ⟨y, hy, hyi, hout⟩ | hm | hi
    · left
      refine ⟨y, hy, hyi.trans hx0i, hout, ?_⟩
      rw [hS]
      constructor
      · rintro ⟨o, ho, hoi, hod⟩
        rw [← (hnd.eq_of_idx_eq ho hy (hoi.trans (hyi.trans hx0i).symm)).2]; exact hod
      · intro h; exact ⟨y, hy, hyi.trans hx0i, h⟩
    · right
      rw [hx0i] at hm
      refine ⟨?_, Or.inl hm⟩
      intro hs
      obtain ⟨o, ho, hoi, _⟩ := hS.1 hs
      obtain ⟨d, hd, hdn, q, hq, y, hy, hyi, _, _⟩ := hm
      have : n = q := (hnd.eq_of_idx_eq ho hy (hoi.trans hyi.symm)).1
      exact hself d hd (by rw [hdn, this]; exact hq)
    · right
      rw [hx0i] at hi
      refine ⟨?_, Or.inr hi⟩
      intro hs
      obtain ⟨o, ho, hoi, _⟩ := hS.1 hs
      have := hb.idx_lt n o ho
      have := hi.1
      omega
  · intro n y hy hgone
    refine Classical.byContradiction (fun hc => ?_)
    have hcond : n ∉ p.outBoundary ∨ y.st = .D := by
      by_cases h1 : n ∈ p.outBoundary
      · by_cases h2 : y.st = .D
        · exact Or.inr h2
        · exact absurd ⟨h1, h2⟩ hc
      · exact Or.inl h1
    obtain ⟨n', hn'⟩ := hF.alive n y hy hcond
    exact hgone n' (by rw [hidx n']; exact hn')
  · intro i h1 h2
    obtain ⟨n, hn'⟩ := hF.hosted i h1 h2
    exact ⟨n, by rw [hidx n]; exact hn'⟩

theorem Step.hosted_old_or_new {p : Proc N} {prog : List (Instr N)} {e e' : Nat} {old new : Util N}
    (h : Step p prog e old new e') {n : N} {i : Nat} (hi : i ∈ (new.get n).map (·.idx)) :
    (∃ n', i ∈ (old.get n').map (·.idx)) ∨ (e ≤ i ∧ i < e') := by
  obtain ⟨x, hx, rfl⟩ := List.mem_map.1 hi
  rcases h.origin n x hx with ⟨y, hy, hyi, _⟩ | ⟨_, hm | hi⟩
  · exact Or.inl ⟨n, List.mem_map.2 ⟨y, hy, hyi⟩⟩
  · obtain ⟨d, _, _, q, _, y, hy, hyi, _⟩ := hm
    exact Or.inl ⟨q, List.mem_map.2 ⟨y, hy, hyi⟩⟩
  · exact Or.inr ⟨hi.1, hi.2.1⟩

theorem Step.not_hosted_of_not_hosted {p : Proc N} {prog : List (Instr N)} {e e' : Nat} {old new : Util N}
    (h : Step p prog e old new e') {i : Nat} (hi : i < e) (hold : ∀ n, i ∉ (old.get n).map (·.idx)) :
    ∀ n, i ∉ (new.get n).map (·.idx) := by
  intro n hn
  rcases h.hosted_old_or_new hn with ⟨n', hn'⟩ | ⟨h1, _⟩
  · exact hold n' hn'
  · omega

theorem Step.flushed {p : Proc N} {prog : List (Instr N)} {e e' : Nat} {old new : Util N}
    (h : Step p prog e old new e') (hb : RowBase p e old) (hnd : RowND old) (ho : orderOK p = true)
    {n : N} (hn : n ∈ p.outBoundary) {y : HI} (hy : y ∈ old.get n) (hyd : y.st ≠ .D) :
    ∀ n', y.idx ∉ (new.get n').map (·.idx) := by
  intro n' hn'
  obtain ⟨x, hx, hxi⟩ := List.mem_map.1 hn'
  rcases h.origin n' x hx with ⟨y', hy', hyi', hout, _⟩ | ⟨_, hm | hi⟩
  · obtain ⟨rfl, rfl⟩ := hnd.eq_of_idx_eq hy' hy (hyi'.trans hxi)
    exact hyd (hout hn)
  · obtain ⟨d, hd, _, q, hq, y', hy', hyi', _⟩ := hm
    obtain ⟨rfl, _⟩ := hnd.eq_of_idx_eq hy' hy (hyi'.trans hxi)
    exact (orderOK_pred ho hd hq).2.1 hn
  · have := hb.idx_lt n y hy
    have := hi.1
    omega

theorem Step.outB_not_S {p : Proc N} {prog : List (Instr N)} {e e' : Nat} {old new : Util N}
    (h : Step p prog e old new e') {n : N} (hn : n ∈ p.outBoundary) {x : HI} (hx : x ∈ new.get n) : x.st ≠ .S := by
  rcases h.origin n x hx with ⟨y, _, _, hout, hS⟩ | ⟨h1, _⟩
  · intro hs; exact (hS.1 hs) (hout hn)
  · exact h1

theorem Step.D_stays {p : Proc N} {prog : List (Instr N)} {e e' : Nat} {old new : Util N}
    (h : Step p prog e old new e') (hb : RowBase p e old) (hnd : RowND old)
    {n : N} {y : HI} (hy : y ∈ old.get n) (hyd : y.st = .D) : y.idx ∈ (new.get n).map (·.idx) := by
  refine Classical.byContradiction (fun hc => ?_)
  by_cases hex : ∃ n', y.idx ∈ (new.get n').map (·.idx)
  · obtain ⟨n', hn'⟩ := hex
    obtain ⟨x, hx, hxi⟩ := List.mem_map.1 hn'
    rcases h.origin n' x hx with ⟨y', hy', hyi', _⟩ | ⟨_, hm | hi⟩
    · obtain ⟨rfl, _⟩ := hnd.eq_of_idx_eq hy' hy (hyi'.trans hxi)
      exact hc hn'
    · obtain ⟨d, hd, _, q, hq, y', hy', hyi', hyd', _⟩ := hm
      obtain ⟨rfl, rfl⟩ := hnd.eq_of_idx_eq hy' hy (hyi'.trans hxi)
      exact hyd' hyd
    · have := hb.idx_lt n y hy
      have := hi.1
      omega
  · have := h.vanish n y hy (fun n' hn' => hex ⟨n', hn'⟩)
    exact this.2 hyd

/-- the positions of instruction `i` in cycle `t` (the inner part of `Ctx.positions`) -/
def Spec.Ctx.rowPos (c : Ctx N) (i t : Nat) : List (Nat × UnitM N × Stall) :=
  c.units.flatMap (fun u => ((c.occ t u.name).filter (fun h => h.idx == i)).map (fun h => (t, u, h.st)))

theorem positions_eq_flatMap (c : Ctx N) (i : Nat) : c.positions i = (List.range c.T).flatMap (c.rowPos i) := rfl

theorem mem_rowPos {c : Ctx N} {i t : Nat} {x : Nat × UnitM N × Stall} :
    x ∈ c.rowPos i t ↔ x.1 = t ∧ x.2.1 ∈ c.units ∧ (⟨i, x.2.2⟩ : HI) ∈ c.occ t x.2.1.name := by
  obtain ⟨t', u, l⟩ := x
  simp only [Ctx.rowPos, List.mem_flatMap, List.mem_map, List.mem_filter, beq_iff_eq, Prod.mk.injEq]
  constructor
  · rintro ⟨u', hu', h, ⟨hh, hi⟩, e1, e2, e3⟩
    subst e1 e2 e3
    obtain ⟨hidx, hst⟩ := h
    simp only at hi
    subst hi
    exact ⟨rfl, hu', hh⟩
  · rintro ⟨e1, hu, hh⟩
    subst e1
    exact ⟨u, hu, ⟨i, l⟩, ⟨hh, rfl⟩, rfl, rfl, rfl⟩

theorem mem_positions {c : Ctx N} {i : Nat} {x : Nat × UnitM N × Stall} :
    x ∈ c.positions i ↔ x.1 < c.T ∧ x.2.1 ∈ c.units ∧ (⟨i, x.2.2⟩ : HI) ∈ c.occ x.1 x.2.1.name := by
  rw [positions_eq_flatMap, List.mem_flatMap]
  constructor
  · rintro ⟨t, ht, hx⟩
    obtain ⟨e1, h2, h3⟩ := mem_rowPos.1 hx
    rw [e1]; exact ⟨List.mem_range.1 ht, h2, h3⟩
  · rintro ⟨h1, h2, h3⟩
    exact ⟨x.1, List.mem_range.2 h1, mem_rowPos.2 ⟨rfl, h2, h3⟩⟩

theorem any_idx_eq_true {l : List HI} {i : Nat} : l.any (fun h => h.idx == i) = true ↔ i ∈ l.map (·.idx) := by
  simp only [List.any_eq_true, beq_iff_eq, List.mem_map]

theorem Spec.Ctx.isIn_iff (c : Ctx N) (t : Nat) (n : N) (i : Nat) :
    c.isIn t n i = true ↔ i ∈ ((c.row t).get n).map (·.idx) :=
  any_idx_eq_true

/-- The test `t ≠ 0 && c.isIn (t - 1) u i` of `Ctx.entersAt` is membership in `prevRow`, the empty record for `t = 0`. -/
theorem Spec.Ctx.entersAt_eq (c : Ctx N) (t : Nat) (n : N) (i : Nat) :
    c.entersAt t n i = (c.isIn t n i && !(((prevRow c.tbl t).get n).any (fun h => h.idx == i))) := by
  unfold Ctx.entersAt
  congr 2
  unfold prevRow
  by_cases ht : t = 0
  · subst ht; simp
  · simp [ht, Ctx.isIn, Ctx.occ, Ctx.row]

theorem Spec.Ctx.entersAt_iff (c : Ctx N) (t : Nat) (n : N) (i : Nat) :
    c.entersAt t n i = true ↔
      i ∈ ((c.row t).get n).map (·.idx) ∧ i ∉ ((prevRow c.tbl t).get n).map (·.idx) := by
  rw [c.entersAt_eq, Bool.and_eq_true, c.isIn_iff, Bool.not_eq_true', ← Bool.not_eq_true, any_idx_eq_true]

variable [LT N] [DecidableRel (α := N) (· < ·)]

theorem fillCycle_issueInv {p : Proc N} (prog : List (Instr N)) (old : Util N) (e : Nat)
    (hn : (p.allUnits.map (·.name)).Nodup) (ho : orderOK p = true) :
    IssueInv p prog old e (fillCycle p prog old e).1 (fillCycle p prog old e).2 := by
  have h1 := IssueInv.of_fillInv (FillInv.after_moveFlights prog old hn ho) e
  obtain ⟨_, h2, _⟩ := issueLoop_induction prog (sortedInputs p) (fun u _ e' => IssueInv p prog old e u e')
    (fun u mem e' ins pre port post hP hins hports hu _ =>
      hP.after_issue hins (mem_sortedInputs.1 (by rw [hports]; simp)) hu.1)
    _ (moveFlights p prog old).2 e h1
  exact h2

theorem Step.of_cycle {p : Proc N} {prog : List (Instr N)} {old : Util N} {e : Nat} {units : List (UnitM N)}
    {qs : Queues N} {lab : Util N × List (N × Nat)} (hn : (p.allUnits.map (·.name)).Nodup) (ho : orderOK p = true)
    (hb : RowBase p e old) (hnd : RowND old)
    (hlab : labelAll units prog qs old (fillCycle p prog old e).1 = .ok lab) :
    Step p prog e old lab.1 (fillCycle p prog old e).2 :=
  Step.of_labelAll (fillCycle_issueInv prog old e hn ho) hb hnd (fun _ hd => orderOK_self_not_pred ho hd) hlab

theorem runCycle_step {p : Proc N} {prog : List (Instr N)} (hn : (p.allUnits.map (·.name)).Nodup)
    (ho : orderOK p = true) {s s' : SimState N} (h : CoreInv p prog s) (hs : runCycle p prog s = .ok (some s')) :
    Step p prog s.entered s.util s'.util s'.entered := by
  obtain ⟨lab, qs, hlab, _, _, rfl⟩ := runCycle_eq_some hs
  exact Step.of_cycle hn ho h.row h.nd hlab

end ProcSim
