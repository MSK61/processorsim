import ProcSim.Lemmas.Termination
import ProcSim.Lemmas.Hazards
/-!
# The `D` clause of "stall ⇒ frozen"

`Lemmas/Termination.lean` and `Lemmas/Hazards.lean` do not import each other; this module sees both. Every reachable
state (`Term.Reach`) satisfies `Hazards.HazardInv`, hence `Term.FrozenDClause` holds for every well-formed processor
and every program whose instructions have duplicate-free source tuples (`Hazards.ProgOK`).
-/
namespace ProcSim
namespace Term

open Spec

variable {N : Type} [DecidableEq N] [LT N] [DecidableRel (α := N) (· < ·)]

theorem Reach.hazardInv {p : Proc N} {prog : List (Instr N)} (hwf : wfProc p = true) (hprog : Hazards.ProgOK prog)
    {s : SimState N} (h : Reach p prog s) : Hazards.HazardInv p prog s := by
  induction h with
  | init => exact Hazards.HazardInv.init p prog
  | step _ hr ih => exact ih.step hwf hprog hr

theorem frozenDClause_holds {p : Proc N} {prog : List (Instr N)} (hwf : wfProc p = true)
    (hprog : Hazards.ProgOK prog) : FrozenDClause p prog := by
  intro s hs _ u hu x hx hxD hl
  exact Hazards.stalled_D_mustWait hwf (hs.hazardInv hwf hprog) hu hx hxD hl true

end Term
end ProcSim
