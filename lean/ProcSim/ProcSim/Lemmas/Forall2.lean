import ProcSim.Spec.Text
/-!
# Pointwise related lists

`Spec.Text.Forall2 R l l'` is defined by recursion on both lists, so a proof about it goes by the four shapes of
`(l, l')`; the two mixed shapes are absurd. The facts about length, `map`, `all` and the shape of the right list are
in the namespace of the definition, so that `h.length_eq`, `h.map_eq …` work on a hypothesis `h : Forall2 R l l'`.
Monotonicity and reflexivity are `Recase.Forall2.imp` and `Recase.Forall2.refl`, in the namespace of the re-casing
proofs that use them: there `Forall2.imp hRS h` resolves, `h.imp hRS` does not.
-/
namespace ProcSim
namespace Spec.Text.Forall2

instance decidable {α β : Type} (R : α → β → Prop) [∀ a b, Decidable (R a b)] :
    ∀ (l : List α) (l' : List β), Decidable (Forall2 R l l')
  | [], [] => isTrue trivial
  | [], _ :: _ => isFalse id
  | _ :: _, [] => isFalse id
  | a :: as, b :: bs =>
    match (inferInstance : Decidable (R a b)), decidable R as bs with
    | isTrue h, isTrue h' => isTrue ⟨h, h'⟩
    | isFalse h, _ => isFalse fun x => h x.1
    | _, isFalse h' => isFalse fun x => h' x.2

theorem length_eq {α β : Type} {R : α → β → Prop} : ∀ {l : List α} {l' : List β}, Forall2 R l l' →
    l.length = l'.length
  | [], [], _ => rfl
  | [], _ :: _, h => h.elim
  | _ :: _, [], h => h.elim
  | _ :: _, _ :: _, h => congrArg (· + 1) (length_eq h.2)

theorem map_eq {α β γ : Type} {R : α → β → Prop} {f : α → γ} {g : β → γ} :
    ∀ {l : List α} {l' : List β}, Forall2 R l l' → (∀ a b, R a b → f a = g b) → l.map f = l'.map g
  | [], [], _, _ => rfl
  | [], _ :: _, hl, _ => hl.elim
  | _ :: _, [], hl, _ => hl.elim
  | _ :: _, _ :: _, hl, h => by rw [List.map_cons, List.map_cons, h _ _ hl.1, map_eq hl.2 h]

theorem all_eq {α β : Type} {R : α → β → Prop} {p : α → Bool} {q : β → Bool} :
    ∀ {l : List α} {l' : List β}, Forall2 R l l' → (∀ a b, R a b → p a = q b) → l.all p = l'.all q
  | [], [], _, _ => rfl
  | [], _ :: _, hl, _ => hl.elim
  | _ :: _, [], hl, _ => hl.elim
  | _ :: _, _ :: _, hl, h => by rw [List.all_cons, List.all_cons, h _ _ hl.1, all_eq hl.2 h]

theorem forall_right {α β : Type} {R : α → β → Prop} {Q : β → Prop} :
    ∀ {l : List α} {l' : List β}, Forall2 R l l' → (∀ a b, R a b → Q b) → ∀ b ∈ l', Q b
  | [], [], _, _ => fun _ hb => nomatch hb
  | [], _ :: _, hl, _ => hl.elim
  | _ :: _, [], hl, _ => hl.elim
  | _ :: _, _ :: _, hl, h => List.forall_mem_cons.2 ⟨h _ _ hl.1, forall_right hl.2 h⟩

theorem nil_left {α β : Type} {R : α → β → Prop} : ∀ {l' : List β}, Forall2 R [] l' → l' = []
  | [], _ => rfl
  | _ :: _, h => h.elim

theorem cons_left {α β : Type} {R : α → β → Prop} {a : α} {l : List α} : ∀ {l' : List β},
    Forall2 R (a :: l) l' → ∃ b l'', l' = b :: l'' ∧ R a b ∧ Forall2 R l l''
  | [], h => h.elim
  | b :: l'', h => ⟨b, l'', rfl, h.1, h.2⟩

end Spec.Text.Forall2

namespace Recase
open Spec.Text (Forall2)

theorem Forall2.imp {α β : Type} {R S : α → β → Prop} (hRS : ∀ a b, R a b → S a b) :
    ∀ {l : List α} {l' : List β}, Forall2 R l l' → Forall2 S l l'
  | [], [], _ => trivial
  | [], _ :: _, h => h.elim
  | _ :: _, [], h => h.elim
  | _ :: _, _ :: _, h => ⟨hRS _ _ h.1, Forall2.imp hRS h.2⟩

theorem Forall2.refl {α : Type} {R : α → α → Prop} (hR : ∀ a, R a a) : ∀ (l : List α), Forall2 R l l
  | [] => trivial
  | _ :: l => ⟨hR _, Forall2.refl hR l⟩

end Recase
end ProcSim
