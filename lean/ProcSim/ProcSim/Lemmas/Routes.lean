import ProcSim.Lemmas.RoutesCore
/-!
# Routes: the route of every instruction through a diagram (foundation of C03)

Continues `Lemmas/RoutesCore.lean`. Four notions, from the state to the single instruction:
* `RouteInv p prog s` — the state invariant: `CoreInv`, the two-row relation `StepB` chained over the recorded table
  (`ChainE`), and the bound on the retirement counter that makes a finished state host only unstalled instructions in
  output ports;
* `Routed c E` — the same as a hypothesis on a diagram context `c`, with entered counters `E t` per row; holds for
  reachable states and for diagrams (`RouteInv.routed_of`, `Diagram_routed_struct`), and is all that the list-level
  arguments use;
* `Run c E` — the part of `Routed` about counters and hosted indices only, shared with the issue facts of
  `Lemmas/Issue.lean`;
* `RouteOf c E i` — the route of instruction `i`, a property of the list `c.positions i` (`Routed.routeOf`), from which
  the checker's list predicates follow.
For one instruction of a routed context this gives: one unit per row, no unit visited twice, label `U` at most once per
unit, and the walk of visited units.
-/
namespace ProcSim
open Spec
open Routes

attribute [local implicit_reducible] AMap

variable {N : Type} [DecidableEq N] [LT N] [DecidableRel (α := N) (· < ·)]

section accounting
omit [LT N] [DecidableRel (α := N) (· < ·)]

/-- program indices below `e` that are not hosted in `u` (issued and gone) -/
def goneIdx (p : Proc N) (u : Util N) (e : Nat) : List Nat :=
  (List.range e).filter (fun i => decide (i ∉ hostedIdx p u))

/-- program indices sitting unstalled at the output boundary -/
def outUIdx (outs : List N) (u : Util N) : List Nat :=
  outs.flatMap (fun n => ((u.get n).filter (fun h => h.st == .U)).map (·.idx))

theorem countOut_eq_length (outs : List N) (u : Util N) : countOut outs u = (outUIdx outs u).length := by
  unfold countOut outUIdx
  rw [List.length_flatMap]
  congr 1
  apply List.map_congr_left
  intro n _
  rw [List.length_map]

theorem mem_hostedIdx {p : Proc N} {u : Util N} {i : Nat} :
    i ∈ hostedIdx p u ↔ ∃ n ∈ p.allUnits.map (·.name), i ∈ (u.get n).map (·.idx) := by
  unfold hostedIdx; rw [List.mem_flatMap]

theorem RowBase.mem_hostedIdx {p : Proc N} {e : Nat} {u : Util N} (hb : RowBase p e u) {i : Nat} :
    i ∈ hostedIdx p u ↔ ∃ n, i ∈ (u.get n).map (·.idx) := by
  rw [ProcSim.mem_hostedIdx]
  constructor
  · rintro ⟨n, _, h⟩; exact ⟨n, h⟩
  · rintro ⟨n, h⟩
    refine ⟨n, hb.names n ?_, h⟩
    intro e0; rw [e0] at h; cases h

theorem mem_goneIdx {p : Proc N} {e : Nat} {u : Util N} (hb : RowBase p e u) {e0 i : Nat} :
    i ∈ goneIdx p u e0 ↔ i < e0 ∧ ∀ n, i ∉ (u.get n).map (·.idx) := by
  unfold goneIdx
  rw [List.mem_filter, List.mem_range, decide_eq_true_eq, hb.mem_hostedIdx]
  constructor
  · rintro ⟨h1, h2⟩; exact ⟨h1, fun n hn => h2 ⟨n, hn⟩⟩
  · rintro ⟨h1, h2⟩; exact ⟨h1, fun ⟨n, hn⟩ => h2 n hn⟩

theorem mem_outUIdx {outs : List N} {u : Util N} {i : Nat} :
    i ∈ outUIdx outs u ↔ ∃ n ∈ outs, ∃ x ∈ u.get n, x.st = .U ∧ x.idx = i := by
  unfold outUIdx
  rw [List.mem_flatMap]
  constructor
  · rintro ⟨n, hn, h⟩
    obtain ⟨x, hx, hxi⟩ := List.mem_map.1 h
    obtain ⟨hx1, hx2⟩ := List.mem_filter.1 hx
    exact ⟨n, hn, x, hx1, by simpa using hx2, hxi⟩
  · rintro ⟨n, hn, x, hx, hxs, hxi⟩
    exact ⟨n, hn, List.mem_map.2 ⟨x, List.mem_filter.2 ⟨hx, by simp [hxs]⟩, hxi⟩⟩

theorem outUIdx_nodup {outs : List N} (ho : outs.Nodup) {u : Util N} (hnd : RowND u) : (outUIdx outs u).Nodup := by
  unfold outUIdx
  apply nodup_flatMap_of _ _ ho
  · intro n _
    exact ((List.filter_sublist).map _).nodup (hnd.nodup_unit n)
  · intro n _ n' _ i hi hi'
    exact hnd.unique_host n n' i (((List.filter_sublist).map _).subset hi) (((List.filter_sublist).map _).subset hi')

theorem gone_outU_nodup {p : Proc N} (hn : (p.allUnits.map (·.name)).Nodup) {e : Nat} {u : Util N}
    (hb : RowBase p e u) (hnd : RowND u) (e0 : Nat) :
    (goneIdx p u e0 ++ outUIdx p.outBoundary u).Nodup := by
  rw [List.nodup_append]
  refine ⟨List.filter_sublist.nodup List.nodup_range, outUIdx_nodup (outBoundary_nodup hn) hnd, ?_⟩
  intro a ha b hb' hab
  subst hab
  obtain ⟨n, _, x, hx, _, hxi⟩ := mem_outUIdx.1 hb'
  exact ((mem_goneIdx hb).1 ha).2 n (List.mem_map.2 ⟨x, hx, hxi⟩)

/-- one cycle: what was gone or retiring before is gone afterwards -/
theorem gone_step {p : Proc N} {prog : List (Instr N)} (hn : (p.allUnits.map (·.name)).Nodup)
    (ho : orderOK p = true) {e e' : Nat} {old new : Util N} (h : Step p prog e old new e')
    (hb : RowBase p e old) (hnd : RowND old) (hb' : RowBase p e' new) :
    (goneIdx p old e).length + countOut p.outBoundary old ≤ (goneIdx p new e').length := by
  rw [countOut_eq_length, ← List.length_append]
  apply (gone_outU_nodup hn hb hnd e).length_le_of_subset
  intro i hi
  rw [mem_goneIdx hb']
  rcases List.mem_append.1 hi with hi | hi
  · obtain ⟨h1, h2⟩ := (mem_goneIdx hb).1 hi
    exact ⟨Nat.lt_of_lt_of_le h1 h.le, h.not_hosted_of_not_hosted h1 h2⟩
  · obtain ⟨n, hn', x, hx, hxs, hxi⟩ := mem_outUIdx.1 hi
    have hlt := hb.idx_lt n x hx
    have hfl := h.flushed hb hnd ho hn' hx (by rw [hxs]; simp)
    rw [hxi] at hlt hfl
    exact ⟨Nat.lt_of_lt_of_le hlt h.le, hfl⟩

/-- if the retirement counter has reached the number of entered instructions (and is bounded as in `RouteInv`),
everything still hosted sits unstalled at the output boundary -/
theorem all_retiring_of_le {p : Proc N} (hn : (p.allUnits.map (·.name)).Nodup) {e : Nat} {u : Util N}
    (hb : RowBase p e u) (hnd : RowND u) (hle : e ≤ (goneIdx p u e).length + countOut p.outBoundary u) :
    ∀ n x, x ∈ u.get n → n ∈ p.outBoundary ∧ x.st = .U := by
  rw [countOut_eq_length, ← List.length_append] at hle
  have hsub : ∀ a ∈ goneIdx p u e ++ outUIdx p.outBoundary u, a ∈ List.range e := by
    intro a ha
    rw [List.mem_range]
    rcases List.mem_append.1 ha with ha | ha
    · exact ((mem_goneIdx hb).1 ha).1
    · obtain ⟨n, _, x, hx, _, hxi⟩ := mem_outUIdx.1 ha
      rw [← hxi]; exact hb.idx_lt n x hx
  have hall := ISort.subset_of_nodup_subset_length_le (gone_outU_nodup hn hb hnd e) hsub (by simpa using hle)
  intro n x hx
  have := hall x.idx (List.mem_range.2 (hb.idx_lt n x hx))
  rcases List.mem_append.1 this with h1 | h1
  · exact absurd (List.mem_map.2 ⟨x, hx, rfl⟩) (((mem_goneIdx hb).1 h1).2 n)
  · obtain ⟨n', hn', x', hx', hxs', hxi'⟩ := mem_outUIdx.1 h1
    obtain ⟨rfl, rfl⟩ := hnd.eq_of_idx_eq hx' hx hxi'
    exact ⟨hn', hxs'⟩

end accounting

section chain
omit [LT N] [DecidableRel (α := N) (· < ·)]

/-- the two-row relation together with the row invariants of both records -/
structure StepB (p : Proc N) (prog : List (Instr N)) (e : Nat) (old new : Util N) (e' : Nat) : Prop
    extends Step p prog e old new e' where
  oldBase : RowBase p e old
  oldND : RowND old
  newBase : RowBase p e' new
  newND : RowND new

/-- `ChainE p prog e' table`: the newest-first `table` was recorded by cycles related by `StepB`, the entered counter
going from `0` to `e'` -/
def ChainE (p : Proc N) (prog : List (Instr N)) : Nat → List (Util N) → Prop
  | e', [] => e' = 0
  | e', r :: rest => ∃ e, StepB p prog e (rest.head?.getD ([] : List (N × List HI))) r e' ∧ ChainE p prog e rest

omit [DecidableEq N] in
theorem head?_getD_eq_reverse_getD (table : List (Util N)) :
    table.head?.getD ([] : List (N × List HI)) =
      table.reverse.getD (table.length - 1) ([] : List (N × List HI)) := by
  cases table with
  | nil => rfl
  | cons r rest =>
    simp only [List.head?_cons, Option.getD_some, List.reverse_cons, List.length_cons, Nat.add_sub_cancel,
      List.getD_eq_getElem?_getD]
    rw [List.getElem?_append_right (by simp)]
    simp

omit [DecidableEq N] in
theorem getD_reverse_cons_lt (r : Util N) (rest : List (Util N)) {t : Nat} (h : t < rest.length) :
    (r :: rest).reverse.getD t ([] : List (N × List HI)) = rest.reverse.getD t ([] : List (N × List HI)) := by
  simp only [List.reverse_cons, List.getD_eq_getElem?_getD]
  rw [List.getElem?_append_left (by simpa using h)]

omit [DecidableEq N] in
theorem getD_reverse_cons_last (r : Util N) (rest : List (Util N)) :
    (r :: rest).reverse.getD rest.length ([] : List (N × List HI)) = r := by
  simp only [List.reverse_cons, List.getD_eq_getElem?_getD]
  rw [List.getElem?_append_right (by simp)]
  simp

omit [DecidableEq N] in
theorem prevRow_reverse_cons_le (r : Util N) (rest : List (Util N)) {t : Nat} (h : t ≤ rest.length) :
    prevRow (r :: rest).reverse t = prevRow rest.reverse t := by
  unfold prevRow
  by_cases h0 : t = 0
  · simp [h0]
  · rw [if_neg h0, if_neg h0]
    exact getD_reverse_cons_lt r rest (by omega)

omit [DecidableEq N] in
theorem prevRow_reverse_cons_last (r : Util N) (rest : List (Util N)) :
    prevRow (r :: rest).reverse rest.length = rest.head?.getD ([] : List (N × List HI)) := by
  rw [prevRow_reverse_cons_le r rest (Nat.le_refl _), head?_getD_eq_reverse_getD]
  unfold prevRow
  cases rest with
  | nil => rfl
  | cons r' rest' => simp

/-- `ChainE` with an arbitrary relation `R` in place of `StepB p prog` (`ChainE.toChain`), so that `Chain.toFun` also
serves the chain of issue facts in `Lemmas/Issue.lean` -/
def Chain (R : Nat → Util N → Util N → Nat → Prop) : Nat → List (Util N) → Prop
  | e', [] => e' = 0
  | e', r :: rest => ∃ e, R e (rest.head?.getD ([] : List (N × List HI))) r e' ∧ Chain R e rest

omit [DecidableEq N] in
/-- the entered counters as a function of the row number: `E t` instructions had entered before cycle `t` -/
theorem Chain.toFun {R : Nat → Util N → Util N → Nat → Prop} :
    ∀ {table : List (Util N)} {e' : Nat}, Chain R e' table →
      ∃ E : Nat → Nat, E 0 = 0 ∧ E table.length = e' ∧
        ∀ t, t < table.length →
          R (E t) (prevRow table.reverse t) (table.reverse.getD t ([] : List (N × List HI))) (E (t + 1))
  | [], e', h => ⟨fun _ => 0, rfl, h.symm, fun t ht => absurd ht (Nat.not_lt_zero t)⟩
  | r :: rest, e', h => by
    -- the newest record `r` is the last row, number `rest.length`, of the diagram `(r :: rest).reverse`; the rows
    -- before it and their predecessors are those of `rest.reverse`. So: `E0` on the rows of `rest`, then `e'`.
    obtain ⟨e, hstep, hch⟩ := h
    obtain ⟨E0, h0, hlast, hall⟩ := Chain.toFun hch
    have hE1 : ∀ t, t ≤ rest.length → (fun t => if t ≤ rest.length then E0 t else e') t = E0 t :=
      fun t ht => if_pos ht
    have hE2 : (fun t => if t ≤ rest.length then E0 t else e') (rest.length + 1) = e' := if_neg (by omega)
    refine ⟨fun t => if t ≤ rest.length then E0 t else e', by rw [hE1 0 (Nat.zero_le _)]; exact h0, hE2, ?_⟩
    intro t ht
    simp only [List.length_cons] at ht
    by_cases hlt : t < rest.length
    · rw [hE1 t (by omega), hE1 (t + 1) (by omega), getD_reverse_cons_lt r rest hlt,
        prevRow_reverse_cons_le r rest (by omega)]
      exact hall t hlt
    · have ht' : t = rest.length := by omega
      subst ht'
      rw [hE1 _ (Nat.le_refl _), hE2, hlast, getD_reverse_cons_last, prevRow_reverse_cons_last]
      exact hstep

theorem ChainE.toChain {p : Proc N} {prog : List (Instr N)} :
    ∀ {table : List (Util N)} {e' : Nat}, ChainE p prog e' table → Chain (StepB p prog) e' table
  | [], _, h => h
  | _ :: _, _, ⟨e, hstep, hch⟩ => ⟨e, hstep, hch.toChain⟩

end chain

/-- **State invariant of the route proofs**: the core invariant, the chain of two-row relations over the recorded
table, and the bound on the retirement counter. -/
structure RouteInv (p : Proc N) (prog : List (Instr N)) (s : SimState N) : Prop extends CoreInv p prog s where
  chain : ChainE p prog s.entered s.table
  exit : s.exited ≤ (goneIdx p s.util s.entered).length + countOut p.outBoundary s.util

omit [LT N] [DecidableRel (α := N) (· < ·)] in
theorem RouteInv.init (p : Proc N) (prog : List (Instr N)) : RouteInv p prog (initState prog) :=
  ⟨CoreInv.init p prog, rfl, Nat.zero_le _⟩

theorem RouteInv.step {p : Proc N} {prog : List (Instr N)} (hs : structOK p = true) {s s' : SimState N}
    (h : RouteInv p prog s) (hr : runCycle p prog s = .ok (some s')) : RouteInv p prog s' := by
  have hc := h.toCoreInv.step hs hr
  have hst := runCycle_step (structOK_nodup_names hs) (structOK_orderOK hs) h.toCoreInv hr
  have hg := gone_step (structOK_nodup_names hs) (structOK_orderOK hs) hst h.row h.nd hc.row
  have hex := h.exit
  obtain ⟨lab, qs, hlab, _, _, rfl⟩ := runCycle_eq_some hr
  refine ⟨hc, ⟨s.entered, ?_, h.chain⟩, ?_⟩
  · rw [← h.util_eq]
    exact ⟨hst, h.row, h.nd, hc.row, hc.nd⟩
  · simp only at hg ⊢
    omega

section positions
omit [LT N] [DecidableRel (α := N) (· < ·)]

def Spec.Ctx.hostedAt (c : Ctx N) (i t : Nat) : Prop := ∃ n, i ∈ ((c.row t).get n).map (·.idx)

theorem filter_idx_length_le_one {l : List HI} (hn : (l.map (·.idx)).Nodup) (i : Nat) :
    (l.filter (fun h => h.idx == i)).length ≤ 1 := by
  induction l with
  | nil => simp
  | cons h l ih =>
    simp only [List.map_cons, List.nodup_cons] at hn
    rw [List.filter_cons]
    split
    · next hi =>
      have hi' : h.idx = i := by simpa using hi
      have : l.filter (fun h => h.idx == i) = [] := by
        rw [List.filter_eq_nil_iff]
        intro x hx hxi
        have hxi' : x.idx = i := by simpa using hxi
        exact hn.1 (List.mem_map.2 ⟨x, hx, by rw [hi', hxi']⟩)
      simp [this]
    · exact ih hn.2

theorem rowPos_length_le_one {c : Ctx N} (hn : (c.units.map (·.name)).Nodup) {t : Nat} (hnd : RowND (c.row t))
    (i : Nat) : (c.rowPos i t).length ≤ 1 := by
  unfold Ctx.rowPos
  apply flatMap_length_le_one (nodup_of_nodup_map _ hn)
  · intro u _
    rw [List.length_map]
    exact filter_idx_length_le_one (hnd.nodup_unit u.name) i
  · intro a ha b hb h1 h2
    have key : ∀ u : UnitM N, ((c.occ t u.name).filter (fun h => h.idx == i)).map (fun h => (t, u, h.st)) ≠ [] →
        i ∈ ((c.row t).get u.name).map (·.idx) := by
      intro u hne
      obtain ⟨x, hx⟩ := List.exists_mem_of_ne_nil _ hne
      obtain ⟨h, hh, _⟩ := List.mem_map.1 hx
      obtain ⟨hh1, hh2⟩ := List.mem_filter.1 hh
      exact List.mem_map.2 ⟨h, hh1, by simpa using hh2⟩
    exact unit_eq_of_name_eq hn ha hb (hnd.unique_host _ _ i (key a h1) (key b h2))

theorem rowPos_ne_nil_iff {c : Ctx N} {e i t : Nat} (hb : RowBase c.p e (c.row t)) :
    c.rowPos i t ≠ [] ↔ c.hostedAt i t := by
  constructor
  · intro hne
    obtain ⟨x, hx⟩ := List.exists_mem_of_ne_nil _ hne
    obtain ⟨_, _, h3⟩ := mem_rowPos.1 hx
    exact ⟨x.2.1.name, List.mem_map.2 ⟨_, h3, rfl⟩⟩
  · rintro ⟨n, hn⟩
    obtain ⟨h, hh, hi⟩ := List.mem_map.1 hn
    have hne : (c.row t).get n ≠ [] := by intro e0; rw [e0] at hh; cases hh
    obtain ⟨u, hu, hun⟩ := List.mem_map.1 (hb.names n hne)
    have : (t, u, h.st) ∈ c.rowPos i t := by
      refine mem_rowPos.2 ⟨rfl, hu, ?_⟩
      show (⟨i, h.st⟩ : HI) ∈ (c.row t).get u.name
      rw [hun, ← hi]; exact hh
    intro e0; rw [e0] at this; cases this

theorem rowPos_eq_nil_of_not_hosted {c : Ctx N} {e i t : Nat} (hb : RowBase c.p e (c.row t))
    (h : ¬ c.hostedAt i t) : c.rowPos i t = [] :=
  Classical.byContradiction (fun hne => h ((rowPos_ne_nil_iff hb).1 hne))

theorem positions_head {c : Ctx N} {i : Nat} {x : Nat × UnitM N × Stall} (h : (c.positions i).head? = some x) :
    x.1 < c.T ∧ x ∈ c.rowPos i x.1 ∧ ∀ t', t' < x.1 → c.rowPos i t' = [] := by
  rw [positions_eq_flatMap, List.head?_flatMap, List.findSome?_eq_some_iff] at h
  obtain ⟨l₁, a, l₂, hsplit, ha, hpre⟩ := h
  obtain ⟨_, haT, hmem⟩ := range_split hsplit
  have hx : x ∈ c.rowPos i a := List.mem_of_mem_head? ha
  have hxa : x.1 = a := (mem_rowPos.1 hx).1
  rw [hxa]
  refine ⟨haT, hx, ?_⟩
  intro t' ht'
  have := hpre t' (hmem t' ht')
  exact List.head?_eq_none_iff.1 this

/-- **The run behind a diagram**, as far as its rows show it: `E t` instructions had entered before cycle `t`; row `t`
hosts only instructions below `E (t + 1)`, among them every one issued in cycle `t`. -/
structure Run (c : Ctx N) (E : Nat → Nat) : Prop where
  zero : E 0 = 0
  le : ∀ t, t < c.T → E t ≤ E (t + 1)
  base : ∀ t, t < c.T → RowBase c.p (E (t + 1)) (c.row t)
  hosted : ∀ t, t < c.T → ∀ i, E t ≤ i → i < E (t + 1) → c.hostedAt i t

namespace Run
variable {c : Ctx N} {E : Nat → Nat}

theorem mono (h : Run c E) {t t' : Nat} (h1 : t ≤ t') (h2 : t' ≤ c.T) : E t ≤ E t' := by
  induction t' with
  | zero => exact Nat.le_of_eq (congrArg E (Nat.le_zero.1 h1))
  | succ k ih =>
    rcases Nat.eq_or_lt_of_le h1 with e | hlt
    · exact Nat.le_of_eq (congrArg E e)
    · exact Nat.le_trans (ih (Nat.le_of_lt_succ hlt) (Nat.le_of_succ_le h2)) (h.le k h2)

/-- the cycle in which an entered instruction was issued -/
theorem bracket (h : Run c E) {i : Nat} (hi : i < E c.T) : ∃ t, t < c.T ∧ E t ≤ i ∧ i < E (t + 1) :=
  exists_bracket E i c.T (by rw [h.zero]; exact Nat.zero_le _) hi

theorem hosted_lt (h : Run c E) {i t : Nat} (ht : t < c.T) (hh : c.hostedAt i t) : i < E (t + 1) := by
  obtain ⟨n, hn⟩ := hh
  obtain ⟨x, hx, rfl⟩ := List.mem_map.1 hn
  exact (h.base t ht).idx_lt n x hx

theorem positions_nil (h : Run c E) {i : Nat} (hi : E c.T ≤ i) : c.positions i = [] := by
  rw [positions_eq_flatMap, List.flatMap_eq_nil_iff]
  intro t ht
  have ht' := List.mem_range.1 ht
  have hle := Nat.le_trans (h.mono (t := t + 1) ht' (Nat.le_refl _)) hi
  exact rowPos_eq_nil_of_not_hosted (h.base t ht') fun hh => Nat.not_lt.2 hle (h.hosted_lt ht' hh)

/-- **the first position of an instruction lies in the cycle of its issue**: it is hosted there, and a row before
hosts only instructions that had entered by then -/
theorem head_cycle (h : Run c E) {i t : Nat} (ht : t < c.T) (h0 : E t ≤ i) (h1 : i < E (t + 1)) :
    ∃ x, (c.positions i).head? = some x ∧ x.1 = t ∧ x ∈ c.rowPos i t := by
  obtain ⟨y, hy⟩ := List.exists_mem_of_ne_nil _ ((rowPos_ne_nil_iff (h.base t ht)).2 (h.hosted t ht i h0 h1))
  have hpos : y ∈ c.positions i := by
    rw [positions_eq_flatMap]
    exact List.mem_flatMap.2 ⟨t, List.mem_range.2 ht, hy⟩
  cases hh : (c.positions i).head? with
  | none => rw [List.head?_eq_none_iff.1 hh] at hpos; cases hpos
  | some x =>
    obtain ⟨hxT, hx, hmin⟩ := positions_head hh
    have hle : x.1 ≤ t := Nat.le_of_not_lt (fun hlt => by rw [hmin t hlt] at hy; cases hy)
    have hge : t ≤ x.1 := by
      refine Nat.le_of_not_lt (fun hlt => ?_)
      have h2 := h.hosted_lt hxT ((rowPos_ne_nil_iff (h.base x.1 hxT)).1 (List.ne_nil_of_mem hx))
      have h3 := h.mono (t := x.1 + 1) hlt (Nat.le_of_lt ht)
      omega
    have hxt : x.1 = t := Nat.le_antisymm hle hge
    exact ⟨x, rfl, hxt, hxt ▸ hx⟩

theorem issued_iff (h : Run c E) (i : Nat) : c.issued i = true ↔ i < E c.T := by
  unfold Ctx.issued
  constructor
  · intro hne
    refine Nat.lt_of_not_le (fun hle => ?_)
    rw [h.positions_nil hle] at hne
    cases hne
  · intro hi
    obtain ⟨t, ht, h0, h1⟩ := h.bracket hi
    obtain ⟨x, hx, _⟩ := h.head_cycle ht h0 h1
    rw [List.head?_eq_some_iff] at hx
    obtain ⟨l, hl⟩ := hx
    rw [hl]
    rfl

theorem enteredCount_eq (h : Run c E) (hle : E c.T ≤ c.n) : c.enteredCount = E c.T := by
  unfold Ctx.enteredCount
  rw [List.filter_congr (q := fun i => decide (i < E c.T))
    (fun i _ => Bool.eq_iff_iff.2 ((h.issued_iff i).trans decide_eq_true_iff.symm)),
    length_filter_lt_range, Nat.min_eq_left hle]

theorem firstCycle_eq (h : Run c E) {i t : Nat} (ht : t < c.T) (h0 : E t ≤ i) (h1 : i < E (t + 1)) :
    c.firstCycle i = some t := by
  obtain ⟨x, hh, hx, _⟩ := h.head_cycle ht h0 h1
  rw [Ctx.firstCycle, hh, Option.map_some, hx]

/-- `issuedBy` read off the counters of a run. `Term.issuedBy_eq` (`Lemmas/Termination.lean`) reads it from which
rows hold an index instead: there the run is known only up to a prefix of the diagram, so no `Run` of the context is at
hand. -/
theorem issuedBy_eq (h : Run c E) (hle : E c.T ≤ c.n) {t : Nat} (ht : t < c.T) : issuedBy c t = E (t + 1) := by
  have hT := h.mono (t := t + 1) ht (Nat.le_refl _)
  unfold issuedBy
  rw [List.filter_congr (q := fun i => decide (i < E (t + 1))), length_filter_lt_range]
  · exact Nat.min_eq_left (Nat.le_trans hT hle)
  · intro i _
    by_cases hi : i < E c.T
    · obtain ⟨t', ht', h0, h1⟩ := h.bracket hi
      rw [h.firstCycle_eq ht' h0 h1]
      show decide (t' ≤ t) = _
      rw [decide_eq_decide]
      constructor
      · intro hlt
        exact Nat.lt_of_lt_of_le h1 (h.mono (t := t' + 1) (Nat.succ_le_succ hlt) ht)
      · intro hlt
        refine Nat.le_of_not_lt (fun hgt => ?_)
        have := h.mono (t := t + 1) hgt (Nat.le_of_lt ht')
        omega
    · rw [Ctx.firstCycle, h.positions_nil (Nat.le_of_not_lt hi)]
      exact (decide_eq_false (by omega)).symm

end Run

/-- **A routed diagram context**: unique names, sink-first order, and entered counters `E` such that consecutive rows
are related by `StepB`; a returned diagram (`stalled = false`) contains the whole program and ends with unstalled
instructions in output ports only. Stated about a context, so that the list-level arguments do not depend on
`simulate`. -/
structure Routed (c : Ctx N) (E : Nat → Nat) : Prop where
  names : (c.p.allUnits.map (·.name)).Nodup
  order : orderOK c.p = true
  zero : E 0 = 0
  le_n : E c.T ≤ c.n
  step : ∀ t, t < c.T → StepB c.p c.prog (E t) (prevRow c.tbl t) (c.row t) (E (t + 1))
  done : c.stalled = false → E c.T = c.n ∧
    ∀ n x, x ∈ (c.row (c.T - 1)).get n → n ∈ c.p.outBoundary ∧ x.st = .U

omit [DecidableEq N] in
theorem prevRow_succ (c : Ctx N) (t : Nat) : prevRow c.tbl (t + 1) = c.row t := by
  simp [prevRow, Ctx.row]

namespace Routed
variable {c : Ctx N} {E : Nat → Nat}

theorem run (h : Routed c E) : Run c E :=
  ⟨h.zero, fun t ht => (h.step t ht).le, fun t ht => (h.step t ht).newBase, fun t ht => (h.step t ht).hosted⟩

theorem hosted_prev_or_issued (h : Routed c E) {i t : Nat} (ht : t < c.T) (hh : c.hostedAt i t) :
    (0 < t ∧ c.hostedAt i (t - 1)) ∨ (E t ≤ i ∧ i < E (t + 1)) := by
  obtain ⟨n, hn⟩ := hh
  rcases (h.step t ht).hosted_old_or_new hn with ⟨n', hn'⟩ | h2
  · left
    cases t with
    | zero => simp [prevRow] at hn'
    | succ k =>
      rw [prevRow_succ] at hn'
      exact ⟨by omega, n', by simpa using hn'⟩
  · exact Or.inr h2

theorem not_hosted_succ (h : Routed c E) {i t : Nat} (ht : t + 1 < c.T) (hi : i < E (t + 1))
    (hh : ¬ c.hostedAt i t) : ¬ c.hostedAt i (t + 1) := by
  intro hh'
  rcases h.hosted_prev_or_issued ht hh' with ⟨_, h2⟩ | ⟨h2, _⟩
  · exact hh (by simpa using h2)
  · omega

/-- **The rows hosting an issued instruction form one interval** `[f, f + m)`, `f` being the cycle of issue. -/
theorem interval (h : Routed c E) {i : Nat} (hi : i < E c.T) :
    ∃ f m, 0 < m ∧ f + m ≤ c.T ∧ E f ≤ i ∧ i < E (f + 1) ∧
      ∀ t, t < c.T → (c.hostedAt i t ↔ f ≤ t ∧ t < f + m) := by
  obtain ⟨f, hfT, hf1, hf2⟩ := exists_bracket E i c.T (by rw [h.zero]; exact Nat.zero_le _) hi
  have hbefore : ∀ t, t < f → ¬ c.hostedAt i t := by
    intro t ht hh
    have := h.run.hosted_lt (by omega) hh
    have := h.run.mono (t := t + 1) (t' := f) (by omega) (by omega)
    omega
  obtain ⟨m, hm0, hm1, hm2⟩ := exists_interval (c.hostedAt i) hfT hbefore (h.run.hosted f hfT i hf1 hf2)
    (fun t h1 h2 => h.not_hosted_succ h2 (Nat.lt_of_lt_of_le hf2 (h.run.mono (by omega) (by omega))))
  exact ⟨f, m, hm0, hm1, hf1, hf2, hm2⟩

theorem rowND (h : Routed c E) {t : Nat} (ht : t < c.T) : RowND (c.row t) := (h.step t ht).newND

theorem positions_eq_interval (h : Routed c E) {i f m : Nat} (hfm : f + m ≤ c.T)
    (hiff : ∀ t, t < c.T → (c.hostedAt i t ↔ f ≤ t ∧ t < f + m)) :
    c.positions i = (List.range' f m).flatMap (c.rowPos i) :=
  flatMap_range_eq_flatMap_range' (c.rowPos i) hfm
    (fun t ht hn => rowPos_eq_nil_of_not_hosted (h.run.base t ht) (fun a => hn ((hiff t ht).1 a)))

theorem rowPos_singleton (h : Routed c E) {i t : Nat} (ht : t < c.T) (hh : c.hostedAt i t) :
    ∃ x, c.rowPos i t = [x] :=
  eq_singleton_of_length_le_one (rowPos_length_le_one h.names (h.rowND ht) i)
    ((rowPos_ne_nil_iff (h.run.base t ht)).2 hh)

end Routed

/-- how two positions of instruction `i` in consecutive cycles are related: same unit (then `S` iff it was not
data-stalled), or a move along a declared connection out of a unit where it was not data-stalled into a unit that
supports its capability, arriving with `U` or `D` -/
def PosStep (p : Proc N) (prog : List (Instr N)) (i : Nat) (a b : Nat × UnitM N × Stall) : Prop :=
  (a.2.1 = b.2.1 ∧ (b.2.2 = .S ↔ a.2.2 ≠ .D)) ∨
  (a.2.1.name ≠ b.2.1.name ∧ a.2.1.name ∈ predsOf p b.2.1.name ∧ a.2.2 ≠ .D ∧ b.2.2 ≠ .S ∧
    capIn prog i b.2.1.caps = true)

namespace Routed
variable {c : Ctx N} {E : Nat → Nat}

theorem hosted_of_mem_positions {i : Nat} {x : Nat × UnitM N × Stall} (hx : x ∈ c.positions i) :
    c.hostedAt i x.1 :=
  ⟨x.2.1.name, List.mem_map.2 ⟨_, (mem_positions.1 hx).2.2, rfl⟩⟩

theorem pos_step (h : Routed c E) {i : Nat} {a b : Nat × UnitM N × Stall} (ha : a ∈ c.positions i)
    (hb : b ∈ c.positions i) (hab : b.1 = a.1 + 1) : PosStep c.p c.prog i a b := by
  obtain ⟨ta, ua, la⟩ := a
  obtain ⟨tb, ub, lb⟩ := b
  simp only at hab
  subst hab
  obtain ⟨ha1, ha2, ha3⟩ := mem_positions.1 ha
  obtain ⟨hb1, hb2, hb3⟩ := mem_positions.1 hb
  simp only at ha1 ha2 ha3 hb1 hb2 hb3
  have st := h.step (ta + 1) hb1
  rw [prevRow_succ] at st
  have same : ∀ n (y : HI), y ∈ (c.row ta).get n → y.idx = i → n = ua.name ∧ y = ⟨i, la⟩ :=
    fun n y hy hyi => st.oldND.eq_of_idx_eq hy ha3 hyi
  unfold PosStep
  simp only
  rcases st.origin ub.name ⟨i, lb⟩ hb3 with ⟨y, hy, hyi, _, hS⟩ | ⟨hnS, hm | his⟩
  · obtain ⟨e1, e2⟩ := same _ y hy hyi
    left
    refine ⟨(unit_eq_of_name_eq h.names hb2 ha2 e1).symm, ?_⟩
    rw [e2] at hS; exact hS
  · obtain ⟨d, hd, hdn, q, hq, y, hy, hyi, hyd, hcap⟩ := hm
    obtain ⟨e1, e2⟩ := same _ y hy hyi
    right
    have hdm : d.model = ub :=
      unit_eq_of_name_eq h.names (model_mem_allUnits_of_mem_dests hd) hb2 hdn
    refine ⟨?_, ?_, ?_, hnS, ?_⟩
    · intro e3
      exact orderOK_self_not_pred h.order hd (by rw [hdn, ← e3, ← e1]; exact hq)
    · rw [← hdn, predsOf_of_mem h.names hd, ← e1]; exact hq
    · rw [e2] at hyd; exact hyd
    · rw [← hdm]; exact hcap
  · exfalso
    have := st.oldBase.idx_lt _ _ ha3
    have := his.1
    simp only at *
    omega

/-- a position whose instruction is not hosted in the cycle before: the instruction has just been issued -/
theorem pos_first (h : Routed c E) {i : Nat} {x : Nat × UnitM N × Stall} (hx : x ∈ c.positions i)
    (hprev : x.1 = 0 ∨ ¬ c.hostedAt i (x.1 - 1)) :
    x.2.1 ∈ c.p.inBoundary ∧ x.2.2 ≠ .S ∧ capIn c.prog i x.2.1.caps = true ∧ E x.1 ≤ i ∧ i < E (x.1 + 1) := by
  obtain ⟨t, u, l⟩ := x
  obtain ⟨h1, h2, h3⟩ := mem_positions.1 hx
  simp only at h1 h2 h3 hprev ⊢
  have st := h.step t h1
  have noprev : ∀ n (y : HI), y ∈ (prevRow c.tbl t).get n → y.idx = i → False := by
    intro n y hy hyi
    cases t with
    | zero => simp [prevRow] at hy
    | succ k =>
      rw [prevRow_succ] at hy
      rcases hprev with hp | hp
      · omega
      · exact hp ⟨n, List.mem_map.2 ⟨y, by simpa using hy, hyi⟩⟩
  rcases st.origin u.name ⟨i, l⟩ h3 with ⟨y, hy, hyi, _⟩ | ⟨hnS, hm | his⟩
  · exact (noprev _ y hy hyi).elim
  · obtain ⟨d, _, _, q, _, y, hy, hyi, _⟩ := hm
    exact (noprev _ y hy hyi).elim
  · obtain ⟨h4, h5, port, hport, hpn, hcap⟩ := his
    have : port = u := unit_eq_of_name_eq h.names (mem_allUnits_of_mem_inBoundary hport) h2 hpn
    subst this
    exact ⟨hport, hnS, hcap, h4, h5⟩

theorem pos_gone (h : Routed c E) {i : Nat} {x : Nat × UnitM N × Stall} (hx : x ∈ c.positions i)
    (hT : x.1 + 1 < c.T) (hnext : ¬ c.hostedAt i (x.1 + 1)) : x.2.1.name ∈ c.p.outBoundary ∧ x.2.2 = .U := by
  obtain ⟨t, u, l⟩ := x
  obtain ⟨h1, h2, h3⟩ := mem_positions.1 hx
  simp only at h1 h2 h3 hT hnext ⊢
  have st := h.step (t + 1) hT
  rw [prevRow_succ] at st
  obtain ⟨ho, hd⟩ := st.vanish u.name ⟨i, l⟩ h3 (fun n' hn' => hnext ⟨n', hn'⟩)
  have hs := (h.step t h1).outB_not_S ho h3
  simp only at hd hs
  refine ⟨ho, ?_⟩
  cases l <;> simp_all

theorem pos_final (h : Routed c E) (hst : c.stalled = false) {i : Nat} {x : Nat × UnitM N × Stall}
    (hx : x ∈ c.positions i) (hT : x.1 + 1 = c.T) : x.2.1.name ∈ c.p.outBoundary ∧ x.2.2 = .U := by
  obtain ⟨_, _, h3⟩ := mem_positions.1 hx
  have h3' : (⟨i, x.2.2⟩ : HI) ∈ (c.row x.1).get x.2.1.name := h3
  exact (h.done hst).2 x.2.1.name ⟨i, x.2.2⟩ (by rw [← hT]; simpa using h3')

end Routed

/-- **The route of an instruction**, as a property of its list of positions: non-empty; consecutive cycles related
by `PosStep`; starts with `U`/`D` in a supporting input-boundary port in its cycle of issue; ends unstalled in an
output-boundary port unless it is still in flight in the last cycle of a stall diagram. -/
structure RouteOf (c : Ctx N) (E : Nat → Nat) (i : Nat) : Prop where
  ne : c.positions i ≠ []
  chain : Adjacent (fun a b => b.1 = a.1 + 1 ∧ PosStep c.p c.prog i a b) (c.positions i)
  first : ∀ x, (c.positions i).head? = some x →
    x.2.1 ∈ c.p.inBoundary ∧ x.2.2 ≠ .S ∧ capIn c.prog i x.2.1.caps = true ∧ E x.1 ≤ i ∧ i < E (x.1 + 1)
  last : ∀ x, (c.positions i).getLast? = some x →
    (c.stalled = true ∧ x.1 + 1 = c.T) ∨ (x.2.1.name ∈ c.p.outBoundary ∧ x.2.2 = .U)
  mem : ∀ x ∈ c.positions i, x.1 < c.T ∧ x.2.1 ∈ c.p.allUnits

/-- every unit on a route supports the capability: the first one does, and a move arrives in a supporting unit -/
theorem RouteOf.supports {c : Ctx N} {E : Nat → Nat} {i : Nat} (h : RouteOf c E i) :
    ∀ x ∈ c.positions i, capIn c.prog i x.2.1.caps = true := by
  refine forall_of_adjacent (P := fun x => capIn c.prog i x.2.1.caps = true) ?_ h.chain
    (fun x hx => (h.first x hx).2.2.1)
  intro a b hab ha
  rcases hab.2 with ⟨e, _⟩ | ⟨_, _, _, _, hc⟩
  · rw [← e]; exact ha
  · exact hc

/-- **Every issued instruction has a route.** -/
theorem Routed.routeOf {c : Ctx N} {E : Nat → Nat} (h : Routed c E) {i : Nat} (hi : i < E c.T) :
    RouteOf c E i := by
  obtain ⟨f, m, hm0, hfm, hf1, hf2, hiff⟩ := h.interval hi
  have hpos := h.positions_eq_interval hfm hiff
  have hT : ∀ t, t < f + m → t < c.T := fun t ht => Nat.lt_of_lt_of_le ht hfm
  have hsing : ∀ t, f ≤ t → t < f + m → ∃ x, c.rowPos i t = [x] :=
    fun t h1 h2 => h.rowPos_singleton (hT t h2) ((hiff t (hT t h2)).2 ⟨h1, h2⟩)
  have hmem : ∀ t, t < c.T → ∀ x ∈ c.rowPos i t, x ∈ c.positions i ∧ x.1 = t := by
    intro t ht x hx
    obtain ⟨e1, h2, h3⟩ := mem_rowPos.1 hx
    exact ⟨mem_positions.2 ⟨by rw [e1]; exact ht, h2, by rw [e1]; exact h3⟩, e1⟩
  have hchain : Adjacent (fun a b => b.1 = a.1 + 1 ∧ PosStep c.p c.prog i a b) (c.positions i) := by
    rw [hpos]
    apply adjacent_flatMap_range' _ _ m f hsing
    intro t a b _ h2 ha hb
    obtain ⟨ha1, ha2⟩ := hmem t (hT t (Nat.lt_of_succ_lt h2)) a ha
    obtain ⟨hb1, hb2⟩ := hmem (t + 1) (hT _ h2) b hb
    have hab : b.1 = a.1 + 1 := by rw [ha2, hb2]
    exact ⟨hab, h.pos_step ha1 hb1 hab⟩
  -- the first and the last row of the interval, with their single positions
  have hff : f < f + m := Nat.lt_add_of_pos_right hm0
  obtain ⟨x0, hx0⟩ := hsing f (Nat.le_refl _) hff
  obtain ⟨hx0p, hx0t⟩ := hmem f (hT f hff) x0 (hx0 ▸ List.mem_singleton_self x0)
  obtain ⟨m', rfl⟩ := Nat.exists_eq_add_of_le' hm0
  have hll : f + m' < f + (m' + 1) := Nat.lt_succ_self _
  obtain ⟨x1, hx1⟩ := hsing (f + m') (Nat.le_add_right f m') hll
  obtain ⟨hx1p, hx1t⟩ := hmem (f + m') (hT _ hll) x1 (hx1 ▸ List.mem_singleton_self x1)
  refine ⟨?_, hchain, ?_, ?_, ?_⟩
  · intro e0
    rw [e0] at hx0p
    cases hx0p
  · intro x hx
    rw [hpos, head?_flatMap_range' _ f (m' + 1) hm0 (hx0 ▸ List.cons_ne_nil _ _), hx0] at hx
    cases hx
    refine h.pos_first hx0p ?_
    rw [hx0t]
    -- row `f - 1`, if there is one, lies before the interval
    rcases Nat.eq_zero_or_pos f with hf0 | hf0
    · exact Or.inl hf0
    · exact Or.inr fun hh => Nat.not_le.2 (Nat.sub_one_lt_of_lt hf0)
        ((hiff (f - 1) (Nat.lt_of_le_of_lt (Nat.sub_le f 1) (hT f hff))).1 hh).1
  · intro x hx
    rw [hpos, getLast?_flatMap_range' _ f m' (hx1 ▸ List.cons_ne_nil _ _), hx1, List.getLast?_singleton] at hx
    cases hx
    have hx1s : x1.1 + 1 = f + (m' + 1) := congrArg (· + 1) hx1t
    rcases Nat.lt_or_eq_of_le hfm with hlt | hlast
    · -- row `f + m' + 1` exists and lies after the interval
      refine Or.inr (h.pos_gone hx1p (hx1s ▸ hlt) fun hh => ?_)
      rw [hx1s] at hh
      exact Nat.lt_irrefl _ ((hiff _ hlt).1 hh).2
    · cases hst : c.stalled with
      | true => exact Or.inl ⟨rfl, hx1s.trans hlast⟩
      | false => exact Or.inr (h.pos_final hst hx1p (hx1s.trans hlast))
  · intro x hx
    obtain ⟨h1, h2, _⟩ := mem_positions.1 hx
    exact ⟨h1, h2⟩

end positions

omit [LT N] [DecidableRel (α := N) (· < ·)] in
/-- The table recorded so far, read as a diagram, is routed with `E (number of rows) = entered`. If the state is
finished, the retirement counter has reached the number of entered instructions, so that the last cycle hosts only
unstalled instructions in output-boundary ports (`all_retiring_of_le`). -/
theorem RouteInv.routed_of {p : Proc N} {prog : List (Instr N)} (hn : (p.allUnits.map (·.name)).Nodup)
    (ho : orderOK p = true) {s : SimState N} (h : RouteInv p prog s) (stalled : Bool)
    (hfin : stalled = false → s.finished prog = true) :
    ∃ E : Nat → Nat, Routed (ctx p prog s.table.reverse stalled) E ∧ E s.table.length = s.entered := by
  obtain ⟨E, h0, hlast, hall⟩ := h.chain.toChain.toFun
  have hT : (ctx p prog s.table.reverse stalled).T = s.table.length := List.length_reverse
  have hle := h.entered_le
  refine ⟨E, ⟨hn, ho, h0, ?_, ?_, ?_⟩, hlast⟩
  · rw [hT, hlast]; exact hle
  · intro t ht; exact hall t (hT ▸ ht)
  · intro hst
    have hf := hfin hst
    simp only [SimState.finished, Bool.not_eq_true', Bool.or_eq_false_iff, decide_eq_false_iff_not,
      Nat.not_lt] at hf
    refine ⟨?_, ?_⟩
    · rw [hT, hlast]; exact Nat.le_antisymm hle hf.1
    · show ∀ n x, x ∈ (s.table.reverse.getD ((ctx p prog s.table.reverse stalled).T - 1)
          ([] : List (N × List HI))).get n → n ∈ p.outBoundary ∧ x.st = .U
      rw [hT, ← head?_getD_eq_reverse_getD, ← h.util_eq]
      exact all_retiring_of_le hn h.row h.nd (by have := h.exit; omega)

omit [LT N] [DecidableRel (α := N) (· < ·)] in
theorem RouteInv.routed {p : Proc N} {prog : List (Instr N)} (hwf : wfProc p = true) {s : SimState N}
    (h : RouteInv p prog s) :
    ∃ E : Nat → Nat, Routed (ctx p prog s.table.reverse true) E ∧ E s.table.length = s.entered :=
  h.routed_of (wfProc_nodup_names hwf) (wfProc_orderOK hwf) true Bool.noConfusion

theorem Diagram_routed_struct {p : Proc N} {prog : List (Instr N)} (hs : structOK p = true)
    {tbl : List (Util N)} {stalled : Bool} (h : Diagram p prog tbl stalled) :
    ∃ E : Nat → Nat, Routed (ctx p prog tbl stalled) E := by
  obtain ⟨s, hi, rfl, _, hfin⟩ :=
    simulate_induction (RouteInv p prog) (RouteInv.init p prog) (fun _ _ hi hr => hi.step hs hr) tbl stalled h
  obtain ⟨E, hE, _⟩ := hi.routed_of (structOK_nodup_names hs) (structOK_orderOK hs) stalled hfin
  exact ⟨E, hE⟩

section checker
omit [LT N] [DecidableRel (α := N) (· < ·)]

/-- a suffix of a stay: `D* U S*`, `S*`, or (open end) `D+` -/
def weakStay (o : Bool) (ls : List Stall) : Prop := stayOK o ls = true ∨ (ls ≠ [] ∧ ∀ s ∈ ls, s = .S)

/-- the open-end flag the C03 checker computes for a stay -/
def openOf (stalled : Bool) (T : Nat) (s : List (Nat × UnitM N × Stall)) : Bool :=
  stalled && (s.getLast?.map (·.1 + 1)) == some T

/-- the C03 checker's test of one stay -/
def stayGood (stalled : Bool) (T : Nat) (s : List (Nat × UnitM N × Stall)) : Bool :=
  stayOK (openOf stalled T s) (s.map (·.2.2))

theorem weakStay_single (o : Bool) (l : Stall) (h : l = .D → o = true) : weakStay o [l] := by
  cases l with
  | U => left; simp [stayOK]
  | S => right; simp
  | D => left; simp [stayOK, h rfl]

theorem weakStay_cons {o : Bool} {lx ly : Stall} {ls : List Stall} (hW : weakStay o (ly :: ls))
    (hS : ly = .S ↔ lx ≠ .D) : weakStay o (lx :: ly :: ls) := by
  cases lx with
  | D =>
    have hy : ly ≠ .S := fun e => (hS.1 e) rfl
    rcases hW with hW | ⟨_, hW⟩
    · left; simpa [stayOK] using hW
    · exact absurd (hW ly List.mem_cons_self) hy
  | U =>
    have hy : ly = .S := hS.2 (by simp)
    subst hy
    rcases hW with hW | ⟨_, hW⟩
    · simp [stayOK] at hW
    · left
      simp only [stayOK, List.all_eq_true, beq_iff_eq]
      exact hW
  | S =>
    have hy : ly = .S := hS.2 (by simp)
    subst hy
    rcases hW with hW | ⟨_, hW⟩
    · simp [stayOK] at hW
    · right
      refine ⟨by simp, ?_⟩
      intro s hs
      rcases List.mem_cons.1 hs with e | e
      · exact e
      · exact hW s e

theorem stayOK_of_weakStay {o : Bool} {l : Stall} {ls : List Stall} (hW : weakStay o (l :: ls)) (hl : l ≠ .S) :
    stayOK o (l :: ls) = true := by
  rcases hW with hW | ⟨_, hW⟩
  · exact hW
  · exact absurd (hW l List.mem_cons_self) hl

theorem stays_cons_of_eq {x : Nat × UnitM N × Stall} {xs : List (Nat × UnitM N × Stall)}
    {y : Nat × UnitM N × Stall} {ys : List (Nat × UnitM N × Stall)} {rest : List (List (Nat × UnitM N × Stall))}
    (h : stays xs = (y :: ys) :: rest) :
    stays (x :: xs) = if x.2.1.name = y.2.1.name then (x :: y :: ys) :: rest else [x] :: (y :: ys) :: rest := by
  rw [stays, h]

/-- the stays of a route: the first one is a suffix of a good stay, all others are good -/
theorem stays_of_chain {p : Proc N} {prog : List (Instr N)} {i : Nat} (stalled : Bool) (T : Nat) :
    ∀ {l : List (Nat × UnitM N × Stall)}, l ≠ [] →
      Adjacent (fun a b => b.1 = a.1 + 1 ∧ PosStep p prog i a b) l →
      (∀ x, l.getLast? = some x → x.2.2 = .D → (stalled && (x.1 + 1 == T)) = true) →
      ∃ x s rest, l.head? = some x ∧ stays l = (x :: s) :: rest ∧
        weakStay (openOf stalled T (x :: s)) ((x :: s).map (·.2.2)) ∧ rest.all (stayGood stalled T) = true
  | [], h, _, _ => absurd rfl h
  | [x], _, _, hlast => by
    refine ⟨x, [], [], rfl, by simp [stays], ?_, rfl⟩
    apply weakStay_single
    intro hd
    have := hlast x rfl hd
    simpa [openOf] using this
  | x :: y :: ys, _, hch, hlast => by
    obtain ⟨y', s, rest, hhead, hst, hW, hrest⟩ :=
      stays_of_chain stalled T (l := y :: ys) (by simp) hch.2 (by
        intro z hz; exact hlast z (by rw [List.getLast?_cons_cons]; exact hz))
    simp only [List.head?_cons, Option.some.injEq] at hhead
    subst hhead
    rcases hch.1.2 with ⟨hsame, hS⟩ | ⟨hne, _, hxD, hyS, _⟩
    · have hnm : x.2.1.name = y.2.1.name := by rw [hsame]
      refine ⟨x, y :: s, rest, rfl, by rw [stays_cons_of_eq hst, if_pos hnm], ?_, hrest⟩
      have ho : openOf stalled T (x :: y :: s) = openOf stalled T (y :: s) := by
        simp [openOf, List.getLast?_cons_cons]
      rw [ho]
      exact weakStay_cons hW hS
    · refine ⟨x, [], (y :: s) :: rest, rfl, by rw [stays_cons_of_eq hst, if_neg hne], ?_, ?_⟩
      · apply weakStay_single
        intro hd; exact absurd hd hxD
      · simp only [List.all_cons, Bool.and_eq_true]
        exact ⟨stayOK_of_weakStay hW hyS, hrest⟩

/-- **Labels of every stay read `D* U S*`** (open end: or `D+`), for a chain that starts with `U`/`D` and whose last
label is `D` only in the last cycle of a stall diagram -/
theorem stays_all_good {p : Proc N} {prog : List (Instr N)} {i : Nat} (stalled : Bool) (T : Nat)
    {l : List (Nat × UnitM N × Stall)} (hne : l ≠ [])
    (hch : Adjacent (fun a b => b.1 = a.1 + 1 ∧ PosStep p prog i a b) l)
    (hfirst : ∀ x, l.head? = some x → x.2.2 ≠ .S)
    (hlast : ∀ x, l.getLast? = some x → x.2.2 = .D → (stalled && (x.1 + 1 == T)) = true) :
    (stays l).all (stayGood stalled T) = true := by
  obtain ⟨x, s, rest, hhead, hst, hW, hrest⟩ := stays_of_chain stalled T hne hch hlast
  rw [hst, List.all_cons, Bool.and_eq_true]
  exact ⟨stayOK_of_weakStay hW (hfirst x hhead), hrest⟩

end checker

section exports
omit [LT N] [DecidableRel (α := N) (· < ·)]

/-- order of two positions of one instruction: later in time, not higher in rank, and if the rank is the same then
the unit is the same and a label other than `D` is followed by `S` only -/
def PosOrder (p : Proc N) (a b : Nat × UnitM N × Stall) : Prop :=
  a.1 < b.1 ∧ unitRank p b.2.1.name ≤ unitRank p a.2.1.name ∧
    (unitRank p b.2.1.name = unitRank p a.2.1.name → a.2.1 = b.2.1 ∧ (a.2.2 ≠ .D → b.2.2 = .S))

theorem PosOrder.trans {p : Proc N} {a b c : Nat × UnitM N × Stall} (h1 : PosOrder p a b) (h2 : PosOrder p b c) :
    PosOrder p a c := by
  obtain ⟨t1, r1, e1⟩ := h1
  obtain ⟨t2, r2, e2⟩ := h2
  refine ⟨by omega, by omega, ?_⟩
  intro hr
  obtain ⟨u1, l1⟩ := e1 (by omega)
  obtain ⟨u2, l2⟩ := e2 (by omega)
  refine ⟨u1.trans u2, ?_⟩
  intro ha
  have hb := l1 ha
  exact l2 (by rw [hb]; simp)

theorem PosOrder.of_step {p : Proc N} {prog : List (Instr N)} {i : Nat} (ho : orderOK p = true)
    {a b : Nat × UnitM N × Stall} (ht : b.1 = a.1 + 1) (h : PosStep p prog i a b) : PosOrder p a b := by
  rcases h with ⟨e, hS⟩ | ⟨_, hp, _, _, _⟩
  · refine ⟨by omega, by rw [e]; exact Nat.le_refl _, fun _ => ⟨e, fun ha => hS.2 ha⟩⟩
  · obtain ⟨d, hd, hdn, hq⟩ := mem_predsOf hp
    have := hdn ▸ unitRank_lt_of_mem_preds ho hd hq
    exact ⟨by omega, by omega, fun e => by omega⟩

variable {c : Ctx N} {E : Nat → Nat}

theorem Routed.positions_unique_row (h : Routed c E) {i : Nat} {x y : Nat × UnitM N × Stall}
    (hx : x ∈ c.positions i) (hy : y ∈ c.positions i) (hxy : x.1 = y.1) : x = y := by
  obtain ⟨h1, h2, h3⟩ := mem_positions.1 hx
  obtain ⟨k1, k2, k3⟩ := mem_positions.1 hy
  exact eq_of_mem_of_length_le_one (rowPos_length_le_one h.names (h.rowND h1) i)
    (mem_rowPos.2 ⟨rfl, h2, h3⟩) (mem_rowPos.2 ⟨hxy.symm, k2, by rw [hxy]; exact k3⟩)

theorem Routed.positions_pairwise (h : Routed c E) (i : Nat) : (c.positions i).Pairwise (PosOrder c.p) := by
  by_cases hi : i < E c.T
  · apply pairwise_of_adjacent_trans (R := PosOrder c.p) (fun _ _ _ h1 h2 => PosOrder.trans h1 h2)
    exact (h.routeOf hi).chain.imp (fun a b hab => PosOrder.of_step h.order hab.1 hab.2)
  · rw [h.run.positions_nil (by omega)]; exact List.Pairwise.nil

/-- **No unit is visited twice**: between two positions in the same unit the instruction is in that unit -/
theorem Routed.no_revisit (h : Routed c E) {i : Nat} {a x b : Nat × UnitM N × Stall} (ha : a ∈ c.positions i)
    (hx : x ∈ c.positions i) (hb : b ∈ c.positions i) (hab : a.2.1.name = b.2.1.name) (h1 : a.1 ≤ x.1)
    (h2 : x.1 ≤ b.1) : x.2.1 = a.2.1 := by
  -- along the positions the rank does not increase, and two positions of equal rank are in the same unit
  have rank_le : ∀ {y z : Nat × UnitM N × Stall}, y ∈ c.positions i → z ∈ c.positions i → y.1 ≤ z.1 →
      unitRank c.p z.2.1.name ≤ unitRank c.p y.2.1.name ∧
        (unitRank c.p z.2.1.name = unitRank c.p y.2.1.name → y.2.1 = z.2.1) := by
    intro y z hy hz hle
    rcases pairwise_mem (h.positions_pairwise i) hy hz with e | hyz | hzy
    · rw [e]; exact ⟨Nat.le_refl _, fun _ => rfl⟩
    · exact ⟨hyz.2.1, fun e => (hyz.2.2 e).1⟩
    · have := hzy.1; omega
  -- `a` and `b` have the same rank and `x` lies between them, so `x` has that rank too
  have same_rank : unitRank c.p b.2.1.name = unitRank c.p a.2.1.name := by rw [hab]
  have hax := rank_le ha hx h1
  have hxb := rank_le hx hb h2
  exact (hax.2 (by omega)).symm

theorem Routed.U_once (h : Routed c E) {i : Nat} {a b : Nat × UnitM N × Stall} (ha : a ∈ c.positions i)
    (hb : b ∈ c.positions i) (hab : a.2.1.name = b.2.1.name) (hau : a.2.2 = .U) (hbu : b.2.2 = .U) : a = b := by
  rcases pairwise_mem (h.positions_pairwise i) ha hb with e | h1 | h1
  · exact e
  · have := (h1.2.2 (by rw [hab])).2 (by rw [hau]; simp)
    rw [hbu] at this; cases this
  · have := (h1.2.2 (by rw [hab])).2 (by rw [hbu]; simp)
    rw [hau] at this; cases this

/-- the units instruction `i` has visited up to cycle `t`, one entry per cycle (so a stay repeats its unit) -/
def Spec.Ctx.visited (c : Ctx N) (i t : Nat) : List (UnitM N) :=
  ((c.positions i).takeWhile (fun x => decide (x.1 ≤ t))).map (·.2.1)

/-- **The units an instruction has visited up to cycle `t` form a walk along declared connections that starts at an
input-boundary port; all of them are units of the processor supporting its capability.** -/
theorem Routed.visited_walk (h : Routed c E) (i t : Nat) :
    (∀ u ∈ c.visited i t, u ∈ c.p.allUnits ∧ capIn c.prog i u.caps = true) ∧
    (∀ u, (c.visited i t).head? = some u → u ∈ c.p.inBoundary) ∧
    Adjacent (fun a b : UnitM N => a = b ∨ a.name ∈ predsOf c.p b.name) (c.visited i t) := by
  unfold Ctx.visited
  by_cases hi : i < E c.T
  · have hr := h.routeOf hi
    have hsplit := List.takeWhile_append_dropWhile (p := fun x : Nat × UnitM N × Stall => decide (x.1 ≤ t))
      (l := c.positions i)
    have hsub : ∀ x ∈ (c.positions i).takeWhile (fun x => decide (x.1 ≤ t)), x ∈ c.positions i :=
      fun x hx => (List.takeWhile_sublist _).subset hx
    refine ⟨?_, ?_, ?_⟩
    · intro u hu
      obtain ⟨x, hx, rfl⟩ := List.mem_map.1 hu
      exact ⟨(hr.mem x (hsub x hx)).2, hr.supports x (hsub x hx)⟩
    · intro u hu
      cases hp : c.positions i with
      | nil => rw [hp] at hu; simp at hu
      | cons x l =>
        rw [hp, List.takeWhile_cons] at hu
        split at hu
        · simp only [List.map_cons, List.head?_cons, Option.some.injEq] at hu
          rw [← hu]; exact (hr.first x (by rw [hp]; rfl)).1
        · simp at hu
    · rw [adjacent_map]
      have hch : Adjacent (fun a b => b.1 = a.1 + 1 ∧ PosStep c.p c.prog i a b)
          ((c.positions i).takeWhile (fun x => decide (x.1 ≤ t))) := by
        have := hr.chain
        rw [← hsplit] at this
        exact this.of_append_left
      refine hch.imp ?_
      intro a b hab
      rcases hab.2 with ⟨e, _⟩ | ⟨_, hp, _, _, _⟩
      · exact Or.inl e
      · exact Or.inr hp
  · rw [h.run.positions_nil (by omega)]
    simp [Adjacent]

end exports

theorem visited_walk_struct {p : Proc N} {prog : List (Instr N)} (hs : structOK p = true) {tbl : List (Util N)}
    {stalled : Bool} (h : Diagram p prog tbl stalled) (i t : Nat) :
    (∀ u ∈ (ctx p prog tbl stalled).visited i t, u ∈ p.allUnits ∧ capIn prog i u.caps = true) ∧
    (∀ u, ((ctx p prog tbl stalled).visited i t).head? = some u → u ∈ p.inBoundary) ∧
    Adjacent (fun a b : UnitM N => a = b ∨ a.name ∈ predsOf p b.name) ((ctx p prog tbl stalled).visited i t) := by
  obtain ⟨E, hE⟩ := Diagram_routed_struct hs h
  exact hE.visited_walk i t

theorem visited_walk {p : Proc N} {prog : List (Instr N)} (hwf : wfProc p = true) {tbl : List (Util N)}
    {stalled : Bool} (h : Diagram p prog tbl stalled) (i t : Nat) :
    (∀ u ∈ (ctx p prog tbl stalled).visited i t, u ∈ p.allUnits ∧ capIn prog i u.caps = true) ∧
    (∀ u, ((ctx p prog tbl stalled).visited i t).head? = some u → u ∈ p.inBoundary) ∧
    Adjacent (fun a b : UnitM N => a = b ∨ a.name ∈ predsOf p b.name) ((ctx p prog tbl stalled).visited i t) :=
  visited_walk_struct (structOK_of_wfProc hwf) h i t

end ProcSim
