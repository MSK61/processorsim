import ProcSim.Model.Pipeline
/-!
# Reading a successful run of the composed pipeline backwards

`Pipeline.front` and `Pipeline.run` are chains of stages, each of which may fail. A successful result determines the
result of every stage.
-/
namespace ProcSim
namespace Pipeline

theorem front_ok {desc : Loader.Desc Str} {rawIsa : List (Str × Str)} {lines : List Str} {st : Stages}
    (h : front desc rawIsa lines = .ok st) :
    Loader.load ICase.lower desc = .ok st.proc ∧ Isa.loadIsa rawIsa (Isa.getAbilitiesProc st.proc) = .ok st.isa ∧
      Program.readProgram lines = .ok st.parsed ∧ Isa.compileProgram st.isa st.parsed = .ok st.prog := by
  unfold front at h
  split at h
  · cases h
  next p hload =>
    split at h
    · cases h
    next isa hisa =>
      split at h
      · cases h
      next parsed hparse =>
        split at h
        · cases h
        next prog hcompile =>
          cases h
          exact ⟨hload, hisa, hparse, hcompile⟩

theorem run_ok {desc : Loader.Desc Str} {rawIsa : List (Str × Str)} {lines : List Str} {st : Stages}
    {o : Outcome Str} (h : run desc rawIsa lines = .ok (st, o)) :
    front desc rawIsa lines = .ok st ∧ simulate st.proc st.prog = o := by
  unfold run at h
  split at h
  · cases h
  next st' hfront =>
    cases h
    exact ⟨hfront, rfl⟩

end Pipeline
end ProcSim
