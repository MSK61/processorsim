import ProcSim.Spec.Sim
import ProcSim.Lemmas.Cli
import ProcSim.Lemmas.ListAux
/-!
# From the positions C03 speaks of to the counts `diagramOK` speaks of

C03's checker reads a diagram through `Ctx.positions i`: per cycle, the look-ups of the processor's units, filtered
for instruction `i` (`C16_posRow`). `diagramOK` counts the entries of the cycle records themselves (`occCount`). In
a record with unique keys whose hosting entries are units the two counts agree wherever the first is at most one
(`C16_occCount_eq`), and positions whose times are consecutive fill an interval of cycles, one per cycle
(`rows_interval`). `Props/C16.lean` puts the two together.
-/
namespace ProcSim

attribute [local implicit_reducible] AMap

namespace CliLemmas
open Cli Spec.Text

variable {N : Type} [DecidableEq N]

theorem consec_eq_range' (l : List Nat) (h : Spec.consec l = true) : l = List.range' (l.headD 0) l.length := by
  induction l with
  | nil => rfl
  | cons a l ih =>
    cases l with
    | nil => simp
    | cons b rest =>
      simp only [Spec.consec, Bool.and_eq_true, decide_eq_true_eq] at h
      obtain ⟨rfl, h2⟩ := h
      have := ih h2
      simp only [List.headD_cons, List.length_cons] at this ⊢
      rw [List.range'_succ, ← this]

def countIdx (i : Nat) (l : List HI) : Nat := (l.filter (fun h => h.idx == i)).length

theorem occCount_le_units (units : List (UnitM N)) (row : List (N × List HI)) (i : Nat)
    (hn : (AMap.keys row).Nodup) (hnames : ∀ e ∈ row, e.2 ≠ [] → ∃ u ∈ units, u.name = e.1) :
    occCount row i ≤ (units.map (fun u => countIdx i (Bag.get row u.name))).sum := by
  induction row with
  | nil => simp [occCount]
  | cons e row ih =>
    obtain ⟨x, l⟩ := e
    simp only [AMap.keys, List.map_cons, List.nodup_cons] at hn
    have ih' := ih hn.2 (fun e he hne => hnames e (List.mem_cons_of_mem _ he) hne)
    have hx : Bag.get row x = [] := Bag.get_eq_nil_of_not_mem_keys hn.1
    have hoc : occCount ((x, l) :: row) i = countIdx i l + occCount row i := by
      simp [occCount, countIdx]
    rw [hoc]
    -- prepending the entry changes no look-up but that of `x`, which was empty
    have hmono : ∀ u ∈ units, countIdx i (Bag.get row u.name) ≤ countIdx i (Bag.get ((x, l) :: row) u.name) := by
      intro u _
      rw [Bag.get_cons]
      split
      · rename_i e
        rw [← e, hx]
        exact Nat.zero_le _
      · exact Nat.le_refl _
    by_cases hc : countIdx i l = 0
    · have := sum_map_le_sum_map hmono
      omega
    · have hl : l ≠ [] := fun e => hc (by rw [e]; rfl)
      obtain ⟨u0, hu0, hname⟩ := hnames (x, l) List.mem_cons_self hl
      have := sum_add_le_sum (m := countIdx i l) hmono hu0 (by
        rw [Bag.get_cons, if_pos hname.symm, hname, hx]
        exact Nat.le_of_eq (Nat.zero_add _))
      omega

/-- rows indexed by time whose entries carry their own time: if the times of all entries, in row order, are
consecutive, then the row lengths are the indicator of an interval -/
theorem rows_interval {α : Type} (rows : Nat → List (Nat × α)) (T : Nat) (hfst : ∀ t, ∀ x ∈ (rows t).map (·.1), x = t)
    (hc : Spec.consec (((List.range T).flatMap rows).map (·.1)) = true)
    (hne : (List.range T).flatMap rows ≠ []) :
    ∃ s m, 1 ≤ m ∧ s + m ≤ T ∧ ∀ t, t < T → (rows t).length = if s ≤ t ∧ t < s + m then 1 else 0 := by
  have hc := consec_eq_range' _ hc
  rw [List.map_flatMap] at hc
  generalize hL : (List.range T).flatMap (fun t => (rows t).map (·.1)) = L at hc
  -- `L` lists the times of the non-empty rows, and is a range
  have hmem : ∀ t, t ∈ L ↔ (t < T ∧ rows t ≠ []) := by
    intro t
    rw [← hL, List.mem_flatMap]
    constructor
    · rintro ⟨t', ht', hx⟩
      have := hfst _ t hx
      subst this
      exact ⟨List.mem_range.1 ht', fun e => by rw [e] at hx; simp at hx⟩
    · rintro ⟨ht, hne⟩
      obtain ⟨x, hx⟩ := List.exists_mem_of_ne_nil _ hne
      refine ⟨t, List.mem_range.2 ht, ?_⟩
      have hx' : x.1 ∈ (rows t).map (·.1) := List.mem_map.2 ⟨x, hx, rfl⟩
      rwa [hfst _ _ hx'] at hx'
  have hLne : L ≠ [] := by
    obtain ⟨x, hx⟩ := List.exists_mem_of_ne_nil _ hne
    obtain ⟨t, ht, hxt⟩ := List.mem_flatMap.1 hx
    exact List.ne_nil_of_mem ((hmem t).2 ⟨List.mem_range.1 ht, List.ne_nil_of_mem hxt⟩)
  have hin : ∀ t, (t < T ∧ rows t ≠ []) ↔ (L.headD 0 ≤ t ∧ t < L.headD 0 + L.length) := by
    intro t
    rw [← hmem t]
    conv => lhs; rw [hc]
    rw [List.mem_range'_1]
  have hpos : 1 ≤ L.length := List.length_pos_iff.2 hLne
  refine ⟨L.headD 0, L.length, hpos, ?_, fun t ht => ?_⟩
  · -- the last time in `L` is below `T`
    obtain ⟨k, hk⟩ := Nat.exists_eq_add_of_le' hpos
    rw [hk]
    exact ((hin (L.headD 0 + k)).2 ⟨Nat.le_add_right _ k, by rw [hk]; exact Nat.lt_succ_self _⟩).1
  · by_cases h : L.headD 0 ≤ t ∧ t < L.headD 0 + L.length
    · -- the times in `L` are distinct, and those of row `t` all equal `t`
      have hnd : ((rows t).map (·.1)).Nodup := by
        have : L.Nodup := by rw [hc]; exact List.nodup_range' 1
        rw [← hL] at this
        exact (List.pairwise_flatMap.1 this).1 t (List.mem_range.2 ht)
      rw [if_pos h]
      cases hr : rows t with
      | nil => exact absurd hr ((hin t).2 h).2
      | cons a l =>
        cases l with
        | nil => rfl
        | cons b l =>
          rw [hr] at hnd
          have ha := hfst t a.1 (hr ▸ List.mem_cons_self)
          have hb := hfst t b.1 (hr ▸ List.mem_cons_of_mem _ List.mem_cons_self)
          exact absurd (List.mem_map.2 ⟨b, List.mem_cons_self, hb.trans ha.symm⟩) (List.nodup_cons.1 hnd).1
    · rw [if_neg h, List.length_eq_zero_iff]
      exact Classical.byContradiction fun e => h ((hin t).1 ⟨ht, e⟩)

end CliLemmas

open Spec Spec.Text Cli CliLemmas

variable {N : Type} [DecidableEq N]

/-- the positions of instruction `i` in cycle `t` that `Ctx.positions` concatenates -/
def C16_posRow (units : List (UnitM N)) (row : List (N × List HI)) (t i : Nat) : List (Nat × UnitM N × Stall) :=
  units.flatMap (fun u => ((Bag.get row u.name).filter (fun h => h.idx == i)).map (fun h => (t, u, h.st)))

theorem C16_positions_eq (p : Proc N) (prog : List (Instr N)) (tbl : List (Util N)) (st : Bool) (i : Nat) :
    (ctx p prog tbl st).positions i =
      (List.range tbl.length).flatMap (fun t => C16_posRow p.allUnits (tbl.getD t []) t i) := rfl

theorem C16_posRow_length (units : List (UnitM N)) (row : List (N × List HI)) (t i : Nat) :
    (C16_posRow units row t i).length = (units.map (fun u => countIdx i (Bag.get row u.name))).sum := by
  simp [C16_posRow, List.length_flatMap, countIdx]

theorem C16_posRow_fst (units : List (UnitM N)) (row : List (N × List HI)) (t i : Nat) :
    ∀ x ∈ (C16_posRow units row t i).map (·.1), x = t := by
  intro x hx
  simp only [C16_posRow, List.map_flatMap, List.map_map, List.mem_flatMap, List.mem_map, Function.comp] at hx
  obtain ⟨u, _, h, _, rfl⟩ := hx
  rfl

theorem C16_occCount_eq (units : List (UnitM N)) (row : List (N × List HI)) (t i : Nat)
    (hn : (AMap.keys row).Nodup) (hnames : ∀ e ∈ row, e.2 ≠ [] → ∃ u ∈ units, u.name = e.1)
    (h1 : (C16_posRow units row t i).length ≤ 1) :
    occCount row i = (C16_posRow units row t i).length := by
  have hle := occCount_le_units units row i hn hnames
  rw [← C16_posRow_length units row t i] at hle
  cases hl : C16_posRow units row t i with
  | nil =>
    rw [hl] at hle
    exact Nat.le_zero.1 hle
  | cons x xs =>
    -- a position comes from an entry of the record, which `writesOf` lists too
    have hx : x ∈ C16_posRow units row t i := by rw [hl]; exact List.mem_cons_self
    simp only [C16_posRow, List.mem_flatMap, List.mem_map, List.mem_filter, beq_iff_eq] at hx
    obtain ⟨u, _, hh, ⟨hm, hi⟩, _⟩ := hx
    have : ({ unit := u.name, st := hh.st } : Pos N) ∈ writesOf row i :=
      (mem_writesOf row i _).2
        ⟨(u.name, Bag.get row u.name), Bag.mem_of_get_ne_nil (List.ne_nil_of_mem hm), hh, hm, hi, rfl⟩
    have hpos := List.length_pos_of_mem this
    rw [writesOf_length] at hpos
    rw [hl] at hle h1
    exact Nat.le_antisymm hle (Nat.le_trans h1 hpos)

end ProcSim
