import ProcSim.Spec.Queue
import ProcSim.Lemmas.ListAux
/-!
# Access queues: the request-level specification and the shape of well-formed queues

Pending lists: the leading run of reads (`leadReads` / `afterReads`), `canServe`, `removeSpec`, `runSpec`. Queues: what
the front of a well-formed queue (`WFq`) looks like, and that `push` appends to `abs` (under `RunsDistinct`). The order
`key` of the requests on one register: `programOrder` says that the list is strictly sorted by `key` (`Hazards.Sorted`).
On a sorted pending list a request is served iff no conflicting request of an older owner is pending
(`canServe_read_sorted_iff`, `canServe_write_sorted_iff`), and a batch of servable requests can be removed in any order
that keeps an owner's read before its write (`runSpec_batch`).

The theorems of property C19, among them the refinement of `canAccess` / `dequeue`, are in `ProcSim/Props/C19.lean`.
-/
namespace ProcSim
open Spec

namespace QueueLemmas

@[simp] theorem leadReads_nil : leadReads [] = [] := rfl
@[simp] theorem leadReads_read (o : Nat) (rest : List Req) :
    leadReads ((false, o) :: rest) = o :: leadReads rest := rfl
@[simp] theorem leadReads_write (o : Nat) (rest : List Req) : leadReads ((true, o) :: rest) = [] := rfl
@[simp] theorem afterReads_nil : afterReads [] = [] := rfl
@[simp] theorem afterReads_read (o : Nat) (rest : List Req) :
    afterReads ((false, o) :: rest) = afterReads rest := rfl
@[simp] theorem afterReads_write (o : Nat) (rest : List Req) :
    afterReads ((true, o) :: rest) = (true, o) :: rest := rfl

theorem leadReads_map_append (os : List Nat) (l : List Req) :
    leadReads (os.map (fun o => (false, o)) ++ l) = os ++ leadReads l := by
  induction os with
  | nil => simp
  | cons a as ih => simp [ih]

theorem afterReads_map_append (os : List Nat) (l : List Req) :
    afterReads (os.map (fun o => (false, o)) ++ l) = afterReads l := by
  induction os with
  | nil => simp
  | cons a as ih => simp [ih]

theorem leadReads_append_afterReads (l : List Req) :
    (leadReads l).map (fun o => (false, o)) ++ afterReads l = l := by
  induction l with
  | nil => rfl
  | cons r t ih =>
    obtain ⟨w, a⟩ := r
    cases w <;> simp [ih]

theorem mem_of_mem_leadReads {l : List Req} {o : Nat} (h : o ∈ leadReads l) : (false, o) ∈ l := by
  rw [← leadReads_append_afterReads l]
  exact List.mem_append_left _ (List.mem_map_of_mem h)

theorem mem_of_mem_afterReads {l : List Req} {r : Req} (h : r ∈ afterReads l) : r ∈ l := by
  rw [← leadReads_append_afterReads l]
  exact List.mem_append_right _ h

theorem mem_leadReads_append_left {l : List Req} {o : Nat} (l2 : List Req) (h : o ∈ leadReads l) :
    o ∈ leadReads (l ++ l2) := by
  have := leadReads_map_append (leadReads l) (afterReads l ++ l2)
  rw [← List.append_assoc, leadReads_append_afterReads] at this
  rw [this]
  exact List.mem_append_left _ h

theorem mem_leadReads_erase {P : List Req} {o o' : Nat} (h : o' ∈ leadReads P) (hne : o' ≠ o) :
    o' ∈ leadReads (P.erase (false, o)) := by
  induction P with
  | nil => simp at h
  | cons x t ih =>
    obtain ⟨w, a⟩ := x
    cases w with
    | true => simp at h
    | false =>
      simp only [leadReads_read, List.mem_cons] at h
      by_cases ha : a = o
      · subst ha
        rw [List.erase_cons_head]
        exact h.resolve_left hne
      · rw [List.erase_cons_tail (by simp [ha]), leadReads_read, List.mem_cons]
        exact h.imp_right ih

@[simp] theorem abs_nil : abs [] = [] := rfl

theorem abs_cons (g : Group) (rest : Queue) :
    abs (g :: rest) = g.owners.map (fun o => (g.wr, o)) ++ abs rest := by
  simp [abs]

theorem abs_append (q1 q2 : Queue) : abs (q1 ++ q2) = abs q1 ++ abs q2 := by
  simp [abs]

theorem WFq_cons (g : Group) (q : Queue) :
    WFq (g :: q) ↔
      (g.owners ≠ [] ∧ g.owners.Nodup ∧ (g.wr = true → g.owners.length = 1)) ∧
      (∀ g', q.head? = some g' → ¬(g.wr = false ∧ g'.wr = false)) ∧ WFq q := by
  cases q with
  | nil => simp [WFq]
  | cons g' r =>
    simp only [WFq, List.head?_cons, Option.some.injEq, forall_eq']
    constructor
    · rintro ⟨a, b, c, d, e⟩; exact ⟨⟨a, b, c⟩, d, e⟩
    · rintro ⟨⟨a, b, c⟩, d, e⟩; exact ⟨a, b, c, d, e⟩

theorem WFq_tail {g : Group} {q : Queue} (h : WFq (g :: q)) : WFq q := ((WFq_cons g q).1 h).2.2

theorem write_front {g : Group} {rest : Queue} (h : WFq (g :: rest)) (hw : g.wr = true) :
    ∃ o, g.owners = [o] ∧ abs (g :: rest) = (true, o) :: abs rest := by
  have hl : g.owners.length = 1 := ((WFq_cons g rest).1 h).1.2.2 hw
  match hg : g.owners, hl with
  | [o], _ => exact ⟨o, rfl, by simp [abs_cons, hg, hw]⟩

theorem behind_read {g : Group} {rest : Queue} (h : WFq (g :: rest)) (hr : g.wr = false) :
    rest = [] ∨ ∃ g2 r o2, rest = g2 :: r ∧ g2.owners = [o2] ∧ abs rest = (true, o2) :: abs r := by
  cases rest with
  | nil => exact Or.inl rfl
  | cons g2 r =>
    right
    have h' := (WFq_cons g (g2 :: r)).1 h
    have hw : g2.wr = true := by
      have := h'.2.1 g2 rfl
      cases hg2 : g2.wr with
      | true => rfl
      | false => exact absurd ⟨hr, hg2⟩ this
    obtain ⟨o2, ho2, habs⟩ := write_front h'.2.2 hw
    exact ⟨g2, r, o2, rfl, ho2, habs⟩

theorem read_front {g : Group} {rest : Queue} (h : WFq (g :: rest)) (hr : g.wr = false) :
    abs (g :: rest) = g.owners.map (fun o => (false, o)) ++ abs rest ∧
    leadReads (abs (g :: rest)) = g.owners ∧ afterReads (abs (g :: rest)) = abs rest := by
  have habs : abs (g :: rest) = g.owners.map (fun o => (false, o)) ++ abs rest := by rw [abs_cons, hr]
  refine ⟨habs, ?_, ?_⟩
  · rw [habs, leadReads_map_append]
    rcases behind_read h hr with h0 | ⟨g2, r, o2, _, _, h2⟩
    · simp [h0]
    · simp [h2]
  · rw [habs, afterReads_map_append]
    rcases behind_read h hr with h0 | ⟨g2, r, o2, _, _, h2⟩
    · simp [h0]
    · simp [h2]

theorem abs_eq_nil_iff {q : Queue} (h : WFq q) : abs q = [] ↔ q = [] := by
  cases q with
  | nil => simp
  | cons g r =>
    have := ((WFq_cons g r).1 h).1.1
    simp [abs_cons, this]

theorem addOwner_ne_nil (os : List Nat) (o : Nat) : Queue.addOwner os o ≠ [] := by
  unfold Queue.addOwner
  split
  · rename_i h; intro h0; simp [h0] at h
  · simp

theorem addOwner_nodup {os : List Nat} (h : os.Nodup) (o : Nat) : (Queue.addOwner os o).Nodup := by
  unfold Queue.addOwner
  split
  · exact h
  · rename_i hn
    rw [List.nodup_append]
    refine ⟨h, by simp, ?_⟩
    intro a ha b hb
    simp only [List.mem_singleton] at hb
    subst hb
    intro hab; subst hab; exact hn ha

theorem addOwner_of_not_mem {os : List Nat} {o : Nat} (h : o ∉ os) : Queue.addOwner os o = os ++ [o] := by
  simp [Queue.addOwner, h]

@[simp] theorem push_nil (wr : Bool) (o : Nat) : Queue.push [] wr o = [⟨wr, [o]⟩] := rfl

theorem push_cons_cons (g g' : Group) (rest : Queue) (wr : Bool) (o : Nat) :
    Queue.push (g :: g' :: rest) wr o = g :: Queue.push (g' :: rest) wr o := rfl

theorem push_single (g : Group) (wr : Bool) (o : Nat) :
    Queue.push [g] wr o =
      if wr = false ∧ g.wr = false then [⟨false, Queue.addOwner g.owners o⟩] else [g, ⟨wr, [o]⟩] := by
  cases wr <;> cases hg : g.wr <;> simp [Queue.push, hg]

theorem push_head_wr (g : Group) (rest : Queue) (wr : Bool) (o : Nat) :
    ∃ g1 t, Queue.push (g :: rest) wr o = g1 :: t ∧ g1.wr = g.wr := by
  cases rest with
  | nil =>
    rw [push_single]
    split
    · rename_i h; exact ⟨_, _, rfl, h.2.symm⟩
    · exact ⟨_, _, rfl, rfl⟩
  | cons g' r => exact ⟨_, _, push_cons_cons .., rfl⟩

theorem push_wf {q : Queue} (h : WFq q) (wr : Bool) (o : Nat) : WFq (q.push wr o) := by
  induction q with
  | nil => simp [WFq]
  | cons g rest ih =>
    cases rest with
    | nil =>
      rw [push_single]
      have hg := ((WFq_cons g []).1 h).1
      split
      · rename_i hc
        rw [WFq_cons]
        exact ⟨⟨addOwner_ne_nil _ _, addOwner_nodup hg.2.1 _, by simp⟩, by simp, trivial⟩
      · rename_i hc
        rw [WFq_cons, WFq_cons]
        refine ⟨hg, ?_, ⟨by simp, by simp, by simp⟩, by simp, trivial⟩
        intro g' hg'
        simp only [List.head?_cons, Option.some.injEq] at hg'
        subst hg'
        intro hh; exact hc ⟨hh.2, hh.1⟩
    | cons g' r =>
      rw [push_cons_cons]
      have h' := (WFq_cons g (g' :: r)).1 h
      obtain ⟨g1, t, hp, hw⟩ := push_head_wr g' r wr o
      rw [WFq_cons]
      refine ⟨h'.1, ?_, ih h'.2.2⟩
      intro g'' hg''
      rw [hp] at hg''
      simp only [List.head?_cons, Option.some.injEq] at hg''
      subst hg''
      rw [hw]
      exact h'.2.1 g' rfl

theorem foldl_push_wf (reqs : List Req) {q : Queue} (h : WFq q) :
    WFq (reqs.foldl (fun q r => q.push r.1 r.2) q) := by
  induction reqs generalizing q with
  | nil => exact h
  | cons r rs ih => exact ih (push_wf h r.1 r.2)

theorem addOwner_idem (os : List Nat) (o : Nat) : Queue.addOwner (Queue.addOwner os o) o = Queue.addOwner os o := by
  unfold Queue.addOwner
  by_cases h : o ∈ os <;> simp [h]

/-- Python: `set.add` -/
theorem push_false_idem (q : Queue) (o : Nat) : (q.push false o).push false o = q.push false o := by
  induction q with
  | nil => simp [push_single, Queue.addOwner]
  | cons g rest ih =>
    cases rest with
    | nil =>
      rw [push_single]
      cases hg : g.wr with
      | false =>
        simp only [and_self, if_true]
        rw [push_single]; simp [addOwner_idem]
      | true =>
        simp only [Bool.true_eq_false, and_false, if_false]
        rw [push_cons_cons, push_single]; simp [Queue.addOwner]
    | cons g' rest' =>
      obtain ⟨g1, t, hp, _⟩ := push_head_wr g' rest' false o
      rw [push_cons_cons, hp, push_cons_cons, ← hp, ih]

theorem runsDistinct_iff (l : List Req) : runsDistinct l = true ↔ RunsDistinct l := by
  induction l with
  | nil => simp [runsDistinct, RunsDistinct]
  | cons x t ih =>
    obtain ⟨w, a⟩ := x
    cases w <;> simp [runsDistinct, RunsDistinct, ih]

theorem RunsDistinct_of_nodup {l : List Req} (h : l.Nodup) : RunsDistinct l := by
  induction l with
  | nil => trivial
  | cons r rest ih =>
    obtain ⟨w, o⟩ := r
    obtain ⟨hn, hr⟩ := List.nodup_cons.1 h
    cases w with
    | true => exact ih hr
    | false => exact ⟨fun hm => hn (mem_of_mem_leadReads hm), ih hr⟩

theorem RunsDistinct_append_right {l1 l2 : List Req} (h : RunsDistinct (l1 ++ l2)) : RunsDistinct l2 := by
  induction l1 with
  | nil => exact h
  | cons x t ih =>
    obtain ⟨w, a⟩ := x
    cases w with
    | true => exact ih h
    | false => exact ih h.2

theorem RunsDistinct_append_left {l1 l2 : List Req} (h : RunsDistinct (l1 ++ l2)) : RunsDistinct l1 := by
  induction l1 with
  | nil => trivial
  | cons x t ih =>
    obtain ⟨w, a⟩ := x
    cases w with
    | true => exact ih h
    | false => exact ⟨fun hm => h.1 (mem_leadReads_append_left l2 hm), ih h.2⟩

theorem not_mem_of_RunsDistinct_reads {os : List Nat} {o : Nat}
    (h : RunsDistinct (os.map (fun a => (false, a)) ++ [(false, o)])) : o ∉ os := by
  induction os with
  | nil => simp
  | cons a as ih =>
    have h1 : a ∉ leadReads (as.map (fun a => (false, a)) ++ [(false, o)]) := h.1
    rw [leadReads_map_append] at h1
    simp only [leadReads_read, leadReads_nil, List.mem_append, List.mem_singleton, not_or] at h1
    simp only [List.mem_cons, not_or]
    exact ⟨fun e => h1.2 e.symm, ih h.2⟩

/-- pushing appends the request, provided a read is not already a member of the trailing run of reads -/
theorem abs_push (q : Queue) (wr : Bool) (o : Nat) (h : RunsDistinct (abs q ++ [(wr, o)])) :
    abs (q.push wr o) = abs q ++ [(wr, o)] := by
  induction q with
  | nil => simp [abs_cons]
  | cons g rest ih =>
    cases rest with
    | nil =>
      rw [push_single]
      split
      · rename_i hc
        obtain ⟨hwr, hg⟩ := hc
        subst hwr
        have hn : o ∉ g.owners := by
          apply not_mem_of_RunsDistinct_reads
          simpa [abs_cons, hg] using h
        simp [abs_cons, addOwner_of_not_mem hn, hg]
      · simp [abs_cons]
    | cons g' r =>
      rw [push_cons_cons, abs_cons, abs_cons g, ih, List.append_assoc]
      rw [abs_cons g, List.append_assoc] at h
      exact RunsDistinct_append_right h

theorem abs_foldl_push (reqs : List Req) (q : Queue) (h : RunsDistinct (abs q ++ reqs)) :
    abs (reqs.foldl (fun q r => q.push r.1 r.2) q) = abs q ++ reqs := by
  induction reqs generalizing q with
  | nil => simp
  | cons r rs ih =>
    have h1 : RunsDistinct (abs q ++ [r]) := by
      apply RunsDistinct_append_left (l2 := rs)
      simpa using h
    have hp : abs (q.push r.1 r.2) = abs q ++ [r] := abs_push q r.1 r.2 h1
    rw [List.foldl_cons, ih (q.push r.1 r.2) (by rw [hp]; simpa using h), hp]
    simp

/-- position of a request in program order: owners ascending, an owner's read before its write -/
def key (r : Req) : Nat := 2 * r.2 + r.1.toNat

theorem key_injective {r s : Req} (h : key r = key s) : r = s := by
  obtain ⟨w1, o1⟩ := r
  obtain ⟨w2, o2⟩ := s
  cases w1 <;> cases w2 <;> simp [key] at h ⊢ <;> omega

theorem key_lt_iff {x y : Req} : key x < key y ↔ x.2 < y.2 ∨ (x.2 = y.2 ∧ x.1 = false ∧ y.1 = true) := by
  obtain ⟨w1, o1⟩ := x
  obtain ⟨w2, o2⟩ := y
  cases w1 <;> cases w2 <;> simp [key] <;> omega

end QueueLemmas

namespace Hazards
open QueueLemmas

/-- strictly sorted by `key`: the requests on one register, in program order -/
abbrev Sorted (P : List Req) : Prop := P.Pairwise (fun a b => key a < key b)

theorem Sorted.split {pre post : List Req} {y : Req} (h : Sorted (pre ++ y :: post)) :
    (∀ x ∈ pre, key x < key y) ∧ (∀ x ∈ post, key y < key x) ∧ Sorted pre := by
  rw [Sorted, List.pairwise_append, List.pairwise_cons] at h
  exact ⟨fun x hx => h.2.2 x hx y List.mem_cons_self, h.2.1.1, h.1⟩

theorem Sorted.mem_pre {pre post : List Req} {y x : Req} (h : Sorted (pre ++ y :: post))
    (hx : x ∈ pre ++ y :: post) (hk : key x < key y) : x ∈ pre := by
  rcases List.mem_append.1 hx with h1 | h1
  · exact h1
  · rcases List.mem_cons.1 h1 with e | e
    · subst e; exact absurd hk (Nat.lt_irrefl _)
    · have := h.split.2.1 x e; omega

end Hazards

namespace QueueLemmas
open Hazards (Sorted)

theorem programOrder_cons_cons (a b : Req) (t : List Req) :
    programOrder (a :: b :: t) = true ↔ key a < key b ∧ programOrder (b :: t) = true := by
  rw [key_lt_iff]
  obtain ⟨w1, o1⟩ := a
  obtain ⟨w2, o2⟩ := b
  simp [programOrder, and_assoc]

/-- "registered in program order" = strictly sorted by `key`; `programOrder` compares neighbours only, and `<` on keys
is transitive -/
theorem programOrder_iff_sorted (l : List Req) :
    programOrder l = true ↔ Sorted l := by
  induction l with
  | nil => simp [programOrder]
  | cons a t ih =>
    cases t with
    | nil => simp [programOrder]
    | cons b t' =>
      rw [programOrder_cons_cons, ih, Sorted, Sorted, List.pairwise_cons (a := a)]
      constructor
      · rintro ⟨hab, hs⟩
        refine ⟨fun x hx => ?_, hs⟩
        rcases List.mem_cons.1 hx with rfl | hx
        · exact hab
        · exact Nat.lt_trans hab ((List.pairwise_cons.1 hs).1 x hx)
      · rintro ⟨ha, hs⟩
        exact ⟨ha b List.mem_cons_self, hs⟩

theorem sorted_nodup {l : List Req} (h : Sorted l) : l.Nodup :=
  h.imp (fun {a b} hab e => by rw [e] at hab; exact Nat.lt_irrefl _ hab)

/-! `canServe` and `removeSpec` both look at the head of the pending list only to see whether the leading run of reads
is empty. -/

theorem canServe_write_head (a : Nat) (t : List Req) (wr : Bool) (o : Nat) :
    canServe ((true, a) :: t) wr o = some (wr && o == a) := rfl

theorem canServe_of_leadReads {P : List Req} (h : leadReads P ≠ []) (wr : Bool) (o : Nat) :
    canServe P wr o = some (if wr then leadReads P == [o] && (afterReads P).head? == some (true, o)
      else decide (o ∈ leadReads P)) := by
  match P, h with
  | (false, a) :: t, _ => cases wr <;> rfl

theorem removeSpec_write_head (a : Nat) (t : List Req) (o : Nat) :
    removeSpec ((true, a) :: t) o = if o = a then some t else none := rfl

theorem removeSpec_of_leadReads {P : List Req} (h : leadReads P ≠ []) (o : Nat) :
    removeSpec P o = if o ∈ leadReads P then some (P.erase (false, o)) else none := by
  match P, h with
  | (false, a) :: t, _ => rfl

/-- on a non-empty pending list `canServe` answers (the implementation raises on the empty queue only) -/
theorem canServe_eq_some_of_ne_nil {P : List Req} (hne : P ≠ []) (wr : Bool) (o : Nat) : ∃ b, canServe P wr o = some b := by
  match P, hne with
  | (true, a) :: t, _ => exact ⟨_, rfl⟩
  | (false, a) :: t, _ => exact ⟨_, canServe_of_leadReads (by simp) wr o⟩

theorem removeSpec_eq_some_iff (p p' : List Req) (o : Nat) :
    removeSpec p o = some p' ↔
      (p = (true, o) :: p') ∨ (o ∈ leadReads p ∧ p' = p.erase (false, o)) := by
  match p with
  | [] => simp [removeSpec]
  | (true, a) :: t =>
    simp only [removeSpec_write_head, leadReads_write, List.not_mem_nil, false_and, or_false]
    by_cases h : o = a
    · subst h; simp
    · simp [h]; intro e; exact absurd e.symm h
  | (false, a) :: t =>
    rw [removeSpec_of_leadReads (by simp)]
    have hne : ((false, a) :: t : List Req) ≠ (true, o) :: p' := by simp
    by_cases h : o ∈ leadReads ((false, a) :: t)
    · rw [if_pos h, Option.some.injEq]
      exact ⟨fun e => Or.inr ⟨h, e.symm⟩, fun e => (e.resolve_left hne).2.symm⟩
    · rw [if_neg h]
      exact ⟨fun e => (by cases e), fun e => absurd (e.resolve_left hne).1 h⟩

theorem removable_iff (p : List Req) (o : Nat) :
    removable p o = true ↔ p.head? = some (true, o) ∨ o ∈ leadReads p := by
  rw [removable, Option.isSome_iff_exists]
  simp only [removeSpec_eq_some_iff, exists_or, exists_and_left, exists_eq, and_true]
  cases p with
  | nil => simp
  | cons x t => simp

theorem removeSpec_sublist {p p' : List Req} {o : Nat} (h : removeSpec p o = some p') : p'.Sublist p := by
  rcases (removeSpec_eq_some_iff p p' o).1 h with h | ⟨_, h⟩
  · subst h; exact List.sublist_cons_self _ _
  · subst h; exact List.erase_sublist

theorem removeSpec_length {p p' : List Req} {o : Nat} (h : removeSpec p o = some p') :
    p'.length + 1 = p.length := by
  rcases (removeSpec_eq_some_iff p p' o).1 h with h | ⟨hm, h⟩
  · subst h; simp
  · subst h
    have hm' := mem_of_mem_leadReads hm
    rw [List.length_erase_of_mem hm']
    have : 0 < p.length := List.length_pos_of_mem hm'
    omega

theorem exists_removable {p : List Req} (h : p ≠ []) : ∃ o, removable p o = true := by
  cases p with
  | nil => exact absurd rfl h
  | cons x t =>
    obtain ⟨w, a⟩ := x
    refine ⟨a, (removable_iff _ _).2 ?_⟩
    cases w <;> simp

theorem canServe_eq_some_true_iff (p : List Req) (wr : Bool) (o : Nat) :
    canServe p wr o = some true ↔
      (wr = false ∧ o ∈ leadReads p) ∨
      (wr = true ∧ (p.head? = some (true, o) ∨
        (leadReads p = [o] ∧ (afterReads p).head? = some (true, o)))) := by
  match p with
  | [] => cases wr <;> simp [canServe]
  | (true, a) :: t =>
    rw [canServe_write_head]
    cases wr with
    | false => simp
    | true => simp; exact eq_comm
  | (false, a) :: t =>
    rw [canServe_of_leadReads (by simp)]
    cases wr <;> simp

theorem mem_of_canServe {p : List Req} {wr : Bool} {o : Nat} (h : canServe p wr o = some true) :
    (wr, o) ∈ p := by
  rcases (canServe_eq_some_true_iff p wr o).1 h with ⟨hw, hm⟩ | ⟨hw, hh | ⟨_, hh⟩⟩
  · subst hw; exact mem_of_mem_leadReads hm
  · subst hw; exact List.mem_of_mem_head? hh
  · subst hw; exact mem_of_mem_afterReads (List.mem_of_mem_head? hh)

theorem removable_of_canServe {p : List Req} {wr : Bool} {o : Nat} (h : canServe p wr o = some true) :
    removable p o = true := by
  rw [removable_iff]
  rcases (canServe_eq_some_true_iff p wr o).1 h with ⟨_, hm⟩ | ⟨_, hh | ⟨hl, _⟩⟩
  · exact Or.inr hm
  · exact Or.inl hh
  · right; rw [hl]; simp

theorem canServe_of_removable {p : List Req} {o : Nat} (h : removable p o = true) :
    canServe p true o = some true ∨ canServe p false o = some true := by
  rcases (removable_iff p o).1 h with h | h
  · exact Or.inl ((canServe_eq_some_true_iff p true o).2 (Or.inr ⟨rfl, Or.inl h⟩))
  · exact Or.inr ((canServe_eq_some_true_iff p false o).2 (Or.inl ⟨rfl, h⟩))

theorem removeSpec_own_pair (o : Nat) (rest : List Req) :
    removeSpec ((false, o) :: (true, o) :: rest) o = some ((true, o) :: rest) ∧
    removeSpec ((true, o) :: rest) o = some rest := by
  simp [removeSpec]

theorem map_erase_read (os : List Nat) (o : Nat) (l : List Req) (h : o ∈ os) :
    (os.map (fun a => (false, a)) ++ l).erase (false, o) = (os.erase o).map (fun a => (false, a)) ++ l := by
  induction os with
  | nil => simp at h
  | cons a as ih =>
    by_cases e : a = o
    · subst e; simp
    · have h' : o ∈ as := by
        rcases List.mem_cons.1 h with h | h
        · exact absurd h.symm e
        · exact h
      have e' : ((false, a) : Req) ≠ (false, o) := by simp [e]
      simp only [List.map_cons, List.cons_append]
      rw [List.erase_cons_tail (by simpa using e'), List.erase_cons_tail (by simpa using e), ih h']
      simp

@[simp] theorem runHistory_nil (q : Queue) : runHistory q [] = some q := by
  cases q <;> rfl

theorem runHistory_cons (q : Queue) (o : Nat) (os : List Nat) :
    runHistory q (o :: os) = (q.dequeue o).bind (fun q' => runHistory q' os) := by
  rw [runHistory]
  cases q.dequeue o <;> rfl

@[simp] theorem runSpec_nil (p : List Req) : runSpec p [] = some p := by
  cases p <;> rfl

theorem runSpec_cons (p : List Req) (o : Nat) (os : List Nat) :
    runSpec p (o :: os) = (removeSpec p o).bind (fun p' => runSpec p' os) := by
  rw [runSpec]
  cases removeSpec p o <;> rfl

theorem runHistory_append (q : Queue) (os1 os2 : List Nat) :
    runHistory q (os1 ++ os2) = (runHistory q os1).bind (fun q' => runHistory q' os2) := by
  induction os1 generalizing q with
  | nil => simp
  | cons o os ih =>
    rw [List.cons_append, runHistory_cons, runHistory_cons]
    cases q.dequeue o with
    | none => rfl
    | some q' => simp [ih]

theorem runSpec_sublist {p p' : List Req} {os : List Nat} (h : runSpec p os = some p') : p'.Sublist p := by
  induction os generalizing p with
  | nil => simp at h; exact h ▸ List.Sublist.refl _
  | cons o os ih =>
    rw [runSpec_cons] at h
    cases hr : removeSpec p o with
    | none => simp [hr] at h
    | some p1 =>
      rw [hr] at h
      exact (ih h).trans (removeSpec_sublist hr)

theorem runSpec_length {p p' : List Req} {os : List Nat} (h : runSpec p os = some p') :
    p'.length + os.length = p.length := by
  induction os generalizing p with
  | nil => simp at h; simp [h]
  | cons o os ih =>
    rw [runSpec_cons] at h
    cases hr : removeSpec p o with
    | none => simp [hr] at h
    | some p1 =>
      rw [hr] at h
      have := ih h
      have := removeSpec_length hr
      simp only [List.length_cons]
      omega

theorem permittedHistory_iff (p : List Req) (os : List Nat) :
    PermittedHistory p os ↔ (runSpec p os).isSome = true := by
  induction os generalizing p with
  | nil => simp [PermittedHistory]
  | cons o os ih =>
    rw [PermittedHistory, runSpec_cons, removable]
    cases hr : removeSpec p o with
    | none => simp
    | some p1 => simp [ih]

/-- no dead-lock at the request level -/
theorem exists_runSpec_empty (p : List Req) : ∃ os, runSpec p os = some [] := by
  generalize hn : p.length = n
  induction n generalizing p with
  | zero => exact ⟨[], by simp [List.length_eq_zero_iff.1 hn]⟩
  | succ n ih =>
    have hne : p ≠ [] := by intro e; simp [e] at hn
    obtain ⟨o, ho⟩ := exists_removable hne
    rw [removable, Option.isSome_iff_exists] at ho
    obtain ⟨p1, hp1⟩ := ho
    have := removeSpec_length hp1
    obtain ⟨os, hos⟩ := ih p1 (by omega)
    exact ⟨o :: os, by rw [runSpec_cons, hp1]; exact hos⟩

theorem own_pair_adjacent {reqs rest : List Req} {o : Nat} (hs : Sorted reqs)
    (hsub : ((false, o) :: (true, o) :: rest).Sublist reqs) :
    ∃ pre post, reqs = pre ++ (false, o) :: (true, o) :: post := by
  obtain ⟨pre, post1, rfl⟩ := List.append_of_mem (hsub.subset List.mem_cons_self)
  have hx : ((false, o) : Req) ∉ pre :=
    fun hm => (List.nodup_append.1 (sorted_nodup hs)).2.2 _ hm _ List.mem_cons_self rfl
  have ht := List.cons_sublist_cons.1 (sublist_of_cons_sublist_append hsub hx)
  obtain ⟨mid, post, rfl⟩ := List.append_of_mem (ht.subset List.mem_cons_self)
  cases mid with
  | nil => exact ⟨pre, post, rfl⟩
  | cons m ms =>
    exfalso
    have h1 := List.pairwise_cons.1 (List.pairwise_append.1 hs).2.1
    have hlo : key (false, o) < key m := h1.1 m (by simp)
    have hhi : key m < key (true, o) := (List.pairwise_cons.1 h1.2).1 (true, o) (by simp)
    simp only [key, Bool.toNat_false, Bool.toNat_true] at hlo hhi
    omega

theorem mem_leadReads_iff (pending : List Req) (o : Nat) :
    o ∈ leadReads pending ↔ ∃ pre post, pending = pre ++ (false, o) :: post ∧ ∀ r ∈ pre, r.1 = false := by
  constructor
  · -- split the leading run at `o`, and put the pending list together again
    intro h
    obtain ⟨a, b, hab⟩ := List.append_of_mem h
    refine ⟨a.map (fun o => (false, o)), b.map (fun o => (false, o)) ++ afterReads pending, ?_, by simp⟩
    have := leadReads_append_afterReads pending
    rw [hab] at this
    exact this.symm.trans (by simp)
  · rintro ⟨pre, post, rfl, hp⟩
    have hpre : (pre.map (·.2)).map (fun o => ((false, o) : Req)) = pre := by
      rw [List.map_map]
      conv => rhs; rw [← List.map_id pre]
      exact List.map_congr_left (fun r hr => Prod.ext (hp r hr).symm rfl)
    rw [← hpre, leadReads_map_append]
    simp

theorem own_read_write_iff (pending : List Req) (o : Nat) :
    (leadReads pending = [o] ∧ (afterReads pending).head? = some (true, o)) ↔
      ∃ rest, pending = (false, o) :: (true, o) :: rest := by
  constructor
  · rintro ⟨h1, h2⟩
    obtain ⟨rest, hr⟩ : ∃ rest, afterReads pending = (true, o) :: rest := by
      cases h : afterReads pending with
      | nil => rw [h] at h2; cases h2
      | cons y t => rw [h] at h2; exact ⟨t, by rw [Option.some.inj h2]⟩
    have := leadReads_append_afterReads pending
    rw [h1, hr] at this
    exact ⟨rest, this.symm⟩
  · rintro ⟨rest, rfl⟩
    simp

theorem canServe_read_sorted_iff {P : List Req} (hs : Sorted P) {o : Nat} (hm : (false, o) ∈ P) :
    canServe P false o = some true ↔ ¬ ∃ y ∈ P, y.1 = true ∧ y.2 < o := by
  rw [canServe_eq_some_true_iff, mem_leadReads_iff]
  simp only [true_and, reduceCtorEq, false_and, or_false]
  constructor
  · rintro ⟨pre, post, rfl, hpre⟩ ⟨y, hy, hy1, hlt⟩
    have := hpre y (hs.mem_pre hy (key_lt_iff.2 (Or.inl hlt)))
    rw [hy1] at this
    cases this
  · intro hno
    obtain ⟨pre, post, rfl⟩ := List.append_of_mem hm
    refine ⟨pre, post, rfl, fun r hr => ?_⟩
    cases hr1 : r.1 with
    | false => rfl
    | true =>
      rcases key_lt_iff.1 (hs.split.1 r hr) with hlt | ⟨_, hf, _⟩
      · exact absurd ⟨r, List.mem_append_left _ hr, hr1, hlt⟩ hno
      · rw [hr1] at hf
        cases hf

/-- a pending write is refused exactly by a pending request of an older owner (its owner's own read does not count) -/
theorem canServe_write_sorted_iff {P : List Req} (hs : Sorted P) {o : Nat} (hm : (true, o) ∈ P) :
    canServe P true o = some true ↔ ¬ ∃ y ∈ P, y.2 < o := by
  rw [canServe_eq_some_true_iff, own_read_write_iff]
  simp only [reduceCtorEq, false_and, false_or, true_and]
  constructor
  · -- in both shapes everything behind the write has a younger owner
    have hyounger : ∀ {l : List Req} {y : Req}, Sorted ((true, o) :: l) → y ∈ l → ¬ y.2 < o := fun hl hy hlt => by
      rcases key_lt_iff.1 ((List.pairwise_cons.1 hl).1 _ hy) with h | ⟨_, hf, _⟩
      · exact Nat.lt_asymm h hlt
      · cases hf
    rintro (hh | ⟨rest, rfl⟩) ⟨y, hy, hlt⟩
    · obtain ⟨t, rfl⟩ : ∃ t, P = (true, o) :: t := by
        cases P with
        | nil => cases hh
        | cons a t => exact ⟨t, by rw [Option.some.inj hh]⟩
      rcases List.mem_cons.1 hy with rfl | hy
      · exact Nat.lt_irrefl _ hlt
      · exact hyounger hs hy hlt
    · rcases List.mem_cons.1 hy with rfl | hy
      · exact Nat.lt_irrefl _ hlt
      · rcases List.mem_cons.1 hy with rfl | hy
        · exact Nat.lt_irrefl _ hlt
        · exact hyounger (List.pairwise_cons.1 hs).2 hy hlt
  · intro hno
    obtain ⟨pre, post, rfl⟩ := List.append_of_mem hm
    have hall : ∀ x ∈ pre, x = (false, o) := fun x hx => by
      rcases key_lt_iff.1 (hs.split.1 x hx) with hlt | ⟨he, hf, _⟩
      · exact absurd ⟨x, List.mem_append_left _ hx, hlt⟩ hno
      · exact Prod.ext hf he
    -- the duplicate-free `pre` holds nothing but the owner's read: it is empty or that read alone
    cases pre with
    | nil => exact Or.inl rfl
    | cons a pre' =>
      have ha := hall a List.mem_cons_self
      subst ha
      have hpre : [((false, o) : Req)] = (false, o) :: pre' :=
        sublist_eq_of_nodup_of_subset (by simp) (sorted_nodup hs.split.2.2) (fun x hx => by simp [hall x hx])
      rw [← hpre]
      exact Or.inr ⟨post, rfl⟩

theorem runSpec_reads {P : List Req} (hP : P.Nodup) (rs : List Req) (hrs : rs.Nodup)
    (hrd : ∀ x ∈ rs, x.1 = false) (hl : ∀ x ∈ rs, x.2 ∈ leadReads P) :
    runSpec P (rs.map (·.2)) = some (P.filter (fun x => decide (x ∉ rs))) := by
  induction rs generalizing P with
  | nil => simp [List.filter_eq_self.2]
  | cons y rs ih =>
    obtain ⟨w, o⟩ := y
    have hw : w = false := hrd _ List.mem_cons_self
    subst hw
    have ho : o ∈ leadReads P := hl _ List.mem_cons_self
    rw [List.nodup_cons] at hrs
    have hrem : removeSpec P o = some (P.erase (false, o)) :=
      (removeSpec_eq_some_iff _ _ _).2 (Or.inr ⟨ho, rfl⟩)
    rw [List.map_cons, runSpec_cons, hrem, Option.bind_some]
    rw [ih (hP.erase _) hrs.2 (fun x hx => hrd x (List.mem_cons_of_mem _ hx))]
    · rw [hP.erase_eq_filter, List.filter_filter]
      congr 1
      apply List.filter_congr
      intro x _
      by_cases e : x = (false, o) <;> simp [e, hrs.1]
    · intro x hx
      apply mem_leadReads_erase (hl x (List.mem_cons_of_mem _ hx))
      intro e
      apply hrs.1
      have h1 := hrd x (List.mem_cons_of_mem _ hx)
      obtain ⟨w', o'⟩ := x
      simp only at h1 e
      subst h1; subst e
      exact hx

/-- **Batch removal.** All requests of `rs` can be served on the pending list `P`; whenever a write is in the batch
while its owner's own read is still pending, that read is in the batch before it. Then dequeuing the owners of `rs`
in order never fails and removes exactly the requests of `rs`. -/
theorem runSpec_batch {P : List Req} (hP : P.Nodup) (rs : List Req) (hrs : rs.Nodup)
    (hserv : ∀ x ∈ rs, canServe P x.1 x.2 = some true)
    (hown : ∀ o, (true, o) ∈ rs → (false, o) ∈ P → [(false, o), (true, o)].Sublist rs) :
    runSpec P (rs.map (·.2)) = some (P.filter (fun x => decide (x ∉ rs))) := by
  by_cases hall : ∀ x ∈ rs, x.1 = false
  · apply runSpec_reads hP rs hrs hall
    intro x hx
    rcases (canServe_eq_some_true_iff P x.1 x.2).1 (hserv x hx) with ⟨_, h⟩ | ⟨h, _⟩
    · exact h
    · rw [hall x hx] at h; cases h
  · -- a write `(true, o)` is served: `P` begins with it, or with its owner's read and then it; in either case
    -- nothing else can be served, so the batch is that beginning of `P`
    obtain ⟨o, ho⟩ : ∃ o, (true, o) ∈ rs := by
      false_or_by_contra
      rename_i hno
      apply hall
      intro x hx
      obtain ⟨w, o⟩ := x
      cases w with
      | false => rfl
      | true => exact absurd ⟨o, hx⟩ hno
    rcases (canServe_eq_some_true_iff P true o).1 (hserv _ ho) with ⟨h, _⟩ | ⟨_, hh | hh⟩
    · cases h
    · obtain ⟨t, rfl⟩ : ∃ t, P = (true, o) :: t := by
        cases P with
        | nil => cases hh
        | cons a t => exact ⟨t, by rw [Option.some.inj hh]⟩
      have hx : ∀ x ∈ rs, x ∈ [((true, o) : Req)] := by
        intro x hx
        have := hserv x hx
        rw [canServe_write_head] at this
        obtain ⟨w', o'⟩ := x
        simpa using this
      have hrs1 : [((true, o) : Req)] = rs := sublist_eq_of_nodup_of_subset (List.singleton_sublist.2 ho) hrs hx
      subst hrs1
      rw [List.map_cons, List.map_nil, runSpec_cons, removeSpec_write_head, if_pos rfl, Option.bind_some, runSpec_nil]
      exact congrArg some (filter_not_mem_append_of_nodup (l₁ := [(true, o)]) hP).symm
    · obtain ⟨rest, rfl⟩ := (own_read_write_iff P o).1 hh
      have hx : ∀ x ∈ rs, x ∈ [((false, o) : Req), (true, o)] := by
        intro x hx
        obtain ⟨w', o'⟩ := x
        rcases (canServe_eq_some_true_iff _ w' o').1 (hserv _ hx) with ⟨hw, hl⟩ | ⟨hw, h1 | h1⟩
        · subst hw
          rw [hh.1] at hl
          simpa using hl
        · simp at h1
        · subst hw
          rw [hh.1] at h1
          simpa using h1.1.symm
      have hrs2 : [((false, o) : Req), (true, o)] = rs :=
        sublist_eq_of_nodup_of_subset (hown o ho List.mem_cons_self) hrs hx
      subst hrs2
      simp only [List.map_cons, List.map_nil, runSpec_cons, (removeSpec_own_pair o rest).1,
        (removeSpec_own_pair o rest).2, Option.bind_some, runSpec_nil]
      exact congrArg some (filter_not_mem_append_of_nodup (l₁ := [(false, o), (true, o)]) hP).symm

end QueueLemmas
end ProcSim
