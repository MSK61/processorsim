import ProcSim.Lemmas.AccessPlan
import ProcSim.Lemmas.LockRoutes
/-!
# The hazard invariant (C01, C02)

Every reachable state satisfies `HazardInv`, in three parts:

* `CoreInv` (from `Lemmas/SimCore`);
* `PlanInv` — every access queue is well formed and stands for exactly the plan's requests that no recorded row shows
  granted. It is preserved because the requests granted in one cycle (`rowReqs`) can all be served on the queue as it was
  at the start of the cycle, so that the deferred dequeues remove exactly these (`runSpec_batch` of `Lemmas/Queue.lean`, applied in `rowReqs_batch`);
* `HostInv` — every hosted instruction has walked from an input-boundary port along declared connections, and an access
  has been granted to it iff a unit on that walk holds the lock. With `wfProc`, which fixes where the locks are on every
  route (`walk_locks` in `Lemmas/LockRoutes.lean`), this gives `examined_facts`: an examined instruction has not yet
  been granted what its unit locks, and in a unit with the write lock only its read is done.

`Diagram_hazard_rows` lifts the invariant to the rows of every diagram.
-/
namespace ProcSim
open Spec QueueLemmas

attribute [local implicit_reducible] AMap

variable {N : Type} [DecidableEq N]

namespace Hazards

/-- in record `row`, instruction `i` is unstalled (`U`) in a unit holding the lock of kind `wr`: it performs that
access in this cycle -/
def accIn (p : Proc N) (row : Util N) (wr : Bool) (i : Nat) : Bool :=
  p.allUnits.any (fun u => lockOf wr u && (row.get u.name).any (fun h => h.idx == i && h.st == .U))

/-- access `(wr, i)` was performed in one of the rows of `tbl` -/
def grantedB (p : Proc N) (tbl : List (Util N)) (wr : Bool) (i : Nat) : Bool :=
  tbl.any (fun row => accIn p row wr i)

theorem accIn_iff {p : Proc N} {row : Util N} {wr : Bool} {i : Nat} :
    accIn p row wr i = true ↔ ∃ u ∈ p.allUnits, lockOf wr u = true ∧ (⟨i, .U⟩ : HI) ∈ row.get u.name := by
  simp only [accIn, List.any_eq_true, Bool.and_eq_true, beq_iff_eq]
  constructor
  · rintro ⟨u, hu, hl, h, hh, h1, h2⟩
    refine ⟨u, hu, hl, ?_⟩
    obtain ⟨a, b⟩ := h
    simp only at h1 h2
    subst h1; subst h2; exact hh
  · rintro ⟨u, hu, hl, hh⟩
    exact ⟨u, hu, hl, ⟨i, .U⟩, hh, rfl, rfl⟩

theorem grantedB_cons (p : Proc N) (row : Util N) (tbl : List (Util N)) (wr : Bool) (i : Nat) :
    grantedB p (row :: tbl) wr i = (accIn p row wr i || grantedB p tbl wr i) := rfl

theorem grantedB_nil (p : Proc N) (wr : Bool) (i : Nat) : grantedB p [] wr i = false := rfl

/-- **The queue invariant**: every access queue is well formed and stands for exactly the requests of the plan that
have not been granted in a recorded cycle. -/
structure PlanInv (p : Proc N) (prog : List (Instr N)) (s : SimState N) : Prop where
  wf : ∀ r, WFq (s.queues.get r)
  abs_eq : ∀ r, abs (s.queues.get r) = (reqsOf prog r).filter (fun x => !grantedB p s.table x.1 x.2)

theorem PlanInv.init (p : Proc N) (prog : List (Instr N)) : PlanInv p prog (initState prog) := by
  refine ⟨fun r => wf_buildPlan prog r, fun r => ?_⟩
  show abs ((buildPlan prog).get r) = _
  rw [abs_buildPlan]
  symm
  apply List.filter_eq_self.2
  intro x _
  rfl

theorem PlanInv.sorted {p : Proc N} {prog : List (Instr N)} {s : SimState N} (h : PlanInv p prog s) (r : N) :
    Sorted (abs (s.queues.get r)) := by
  rw [h.abs_eq]; exact (reqsOf_sorted prog r).filter _

theorem PlanInv.mem_abs {p : Proc N} {prog : List (Instr N)} {s : SimState N} (h : PlanInv p prog s) {r : N}
    {x : Req} : x ∈ abs (s.queues.get r) ↔ x ∈ reqsOf prog r ∧ grantedB p s.table x.1 x.2 = false := by
  rw [h.abs_eq, List.mem_filter]; simp

/-- the deferred dequeues act on every register separately: they run the history of the owners cleared on that
register, and raise exactly when one of these histories does -/
theorem applyClears_spec (qs : Queues N) (cs : List (N × Nat)) :
    (∃ qs', applyClears qs cs = .ok qs' ∧
      ∀ r, runHistory (qs.get r) ((cs.filter (fun c => decide (c.1 = r))).map (·.2)) = some (qs'.get r)) ∨
    (applyClears qs cs = .error .badDequeue ∧
      ∃ r, runHistory (qs.get r) ((cs.filter (fun c => decide (c.1 = r))).map (·.2)) = none) := by
  induction cs generalizing qs with
  | nil => exact Or.inl ⟨qs, rfl, fun r => rfl⟩
  | cons c cs ih =>
    obtain ⟨a, i⟩ := c
    unfold applyClears
    cases hd : (qs.get a).dequeue i with
    | none => exact Or.inr ⟨rfl, a, by simp [runHistory_cons, hd]⟩
    | some q =>
      -- the first dequeue belongs to the history of `a` and leaves the other queues alone
      have hstep : ∀ r, runHistory (qs.get r) ((((a, i) :: cs).filter (fun c => decide (c.1 = r))).map (·.2)) =
          runHistory ((qs.set a q).get r) ((cs.filter (fun c => decide (c.1 = r))).map (·.2)) := by
        intro r
        by_cases ha : a = r
        · subst ha
          simp [runHistory_cons, hd]
        · simp [ha, Queues.get_set_ne _ _ ha]
      simp only [hstep]
      exact ih (qs.set a q)

theorem applyClears_runHistory {qs qs' : Queues N} {cs : List (N × Nat)} (h : applyClears qs cs = .ok qs') (r : N) :
    runHistory (qs.get r) ((cs.filter (fun c => decide (c.1 = r))).map (·.2)) = some (qs'.get r) := by
  rcases applyClears_spec qs cs with ⟨qs'', h', hall⟩ | ⟨h', _⟩
  · rw [h] at h'
    cases h'
    exact hall r
  · rw [h] at h'
    cases h'

theorem applyClears_ok_of {qs : Queues N} {cs : List (N × Nat)}
    (h : ∀ r, ∃ q', runHistory (qs.get r) ((cs.filter (fun c => decide (c.1 = r))).map (·.2)) = some q') :
    ∃ qs', applyClears qs cs = .ok qs' := by
  rcases applyClears_spec qs cs with ⟨qs', h', _⟩ | ⟨_, r, hnone⟩
  · exact ⟨qs', h'⟩
  · obtain ⟨q', hq'⟩ := h r
    rw [hnone] at hq'
    cases hq'

/-- the requests on register `r` granted to instruction `i` when it is examined in `unit`: those of its requests on
`r` whose lock the unit holds, if it gets label `U` -/
def instrReqs (prog : List (Instr N)) (qs : Queues N) (unit : UnitM N) (old : List HI) (r : N) (i : Nat) : List Req :=
  if labelOf prog qs unit old i = .U then
    match prog[i]? with
    | some ins => (reqsOfInstr r i ins).filter (fun x => lockOf x.1 unit)
    | none => []
  else []

theorem mem_instrReqs {prog : List (Instr N)} {qs : Queues N} {unit : UnitM N} {old : List HI} {r : N} {i : Nat}
    {x : Req} :
    x ∈ instrReqs prog qs unit old r i ↔
      x.2 = i ∧ labelOf prog qs unit old i = .U ∧ lockOf x.1 unit = true ∧
        ∃ ins, prog[i]? = some ins ∧ (if x.1 then ins.dst = r else r ∈ ins.srcs) := by
  unfold instrReqs
  by_cases hl : labelOf prog qs unit old i = .U
  · cases hp : prog[i]? with
    | none => simp [hl]
    | some ins =>
      simp only [hl, if_true, List.mem_filter, mem_reqsOfInstr, Option.some.injEq, exists_eq_left', true_and]
      exact ⟨fun ⟨⟨a, b⟩, c⟩ => ⟨a, c, b⟩, fun ⟨a, c, b⟩ => ⟨⟨a, b⟩, c⟩⟩
  · simp [hl]

theorem instrReqs_nodup (prog : List (Instr N)) (qs : Queues N) (unit : UnitM N) (old : List HI) (r : N) (i : Nat) :
    (instrReqs prog qs unit old r i).Nodup := by
  unfold instrReqs
  split
  · split
    · exact (sorted_nodup (reqsOfInstr_sorted r i _)).filter _
    · exact List.nodup_nil
  · exact List.nodup_nil

/-- the dequeues instruction `i` requests on `r` are those of its granted requests: `_regs_avail` hands back every
locked register once, the sources being distinct -/
theorem clearsOf_owners {prog : List (Instr N)} (hprog : ProgOK prog) (qs : Queues N) (unit : UnitM N)
    (old : List HI) (r : N) (i : Nat) :
    ((clearsOf prog qs unit old i).filter (fun c => decide (c.1 = r))).map (·.2) =
      (instrReqs prog qs unit old r i).map (·.2) := by
  rcases labelOf_clearsOf prog qs unit old i with ⟨hl, _, ins, hp, _, hc⟩ | ⟨hl, hc⟩
  · have hnd : ins.srcs.Nodup := hprog ins (List.mem_of_getElem? hp)
    have hf : ∀ l : List N, ((l.map (fun x => (x, i))).filter (fun c => decide (c.1 = r))).map (·.2) =
        (l.filter (fun x => decide (x = r))).map (fun _ => i) := by
      intro l; rw [List.filter_map, List.map_map]; rfl
    simp only [hc, instrReqs, hl, if_true, hp, lockedRegs, reqsOfInstr, List.map_append, List.filter_append, hf]
    congr 1
    · cases hrd : unit.rd <;> by_cases hr : r ∈ ins.srcs <;> simp [hr, hrd, filter_eq_of_nodup hnd]
    · cases hwr : unit.wr <;> by_cases hd : ins.dst = r <;> simp [hd, hwr]
  · simp [hc, instrReqs, hl]

/-- requests on `r` granted in one entry `(unit name, hosted instructions)` of the record -/
def entryReqs (units : List (UnitM N)) (prog : List (Instr N)) (qs : Queues N) (old : Util N) (r : N)
    (e : N × List HI) : List Req :=
  match lookupUnit units e.1 with
  | some unit => e.2.flatMap (fun x => instrReqs prog qs unit (old.get e.1) r x.idx)
  | none => []

/-- all requests on `r` granted when record `F` is labelled against the queues `qs` -/
def rowReqs (units : List (UnitM N)) (prog : List (Instr N)) (qs : Queues N) (old F : Util N) (r : N) : List Req :=
  (AMap.toList F).flatMap (entryReqs units prog qs old r)

theorem entryReqs_of_mem {p : Proc N} (hn : (p.allUnits.map (·.name)).Nodup) {u : UnitM N} (hu : u ∈ p.allUnits)
    (prog : List (Instr N)) (qs : Queues N) (old : Util N) (r : N) (l : List HI) :
    entryReqs p.allUnits prog qs old r (u.name, l) =
      l.flatMap (fun x => instrReqs prog qs u (old.get u.name) r x.idx) := by
  simp only [entryReqs, lookupUnit_of_mem hn hu]

theorem clears_owners {units : List (UnitM N)} {prog : List (Instr N)} (hprog : ProgOK prog) {qs : Queues N}
    {old F : Util N} {lab : Util N × List (N × Nat)} (h : labelAll units prog qs old F = .ok lab) (r : N) :
    (lab.2.filter (fun c => decide (c.1 = r))).map (·.2) = (rowReqs units prog qs old F r).map (·.2) := by
  rw [labelAll_clears h, rowReqs, List.filter_flatMap, List.map_flatMap, List.map_flatMap]
  apply flatMap_congr_left
  intro e _
  unfold entryReqs
  cases lookupUnit units e.1 with
  | none => rfl
  | some unit =>
    simp only [List.filter_flatMap, List.map_flatMap]
    apply flatMap_congr_left
    intro x _
    exact clearsOf_owners hprog qs unit _ r x.idx

/-- what a granted request of the cycle is: its owner is hosted in a unit holding the matching lock, gets label `U`
there, and accesses `r` that way -/
theorem mem_rowReqs {p : Proc N} (hn : (p.allUnits.map (·.name)).Nodup) {prog : List (Instr N)} {qs : Queues N}
    {old F : Util N} (hk : (AMap.keys F).Nodup) {r : N} {x : Req} :
    x ∈ rowReqs p.allUnits prog qs old F r ↔
      ∃ u ∈ p.allUnits, (∃ h ∈ F.get u.name, h.idx = x.2) ∧ labelOf prog qs u (old.get u.name) x.2 = .U ∧
        lockOf x.1 u = true ∧ ∃ ins, prog[x.2]? = some ins ∧ (if x.1 then ins.dst = r else r ∈ ins.srcs) := by
  unfold rowReqs
  rw [List.mem_flatMap]
  constructor
  · rintro ⟨e, he, hx⟩
    unfold entryReqs at hx
    cases hlu : lookupUnit p.allUnits e.1 with
    | none => simp [hlu] at hx
    | some unit =>
      simp only [hlu, List.mem_flatMap] at hx
      obtain ⟨h, hh, hx⟩ := hx
      obtain ⟨h1, h2, h3, h4⟩ := mem_instrReqs.1 hx
      obtain ⟨hu, hname⟩ := lookupUnit_some hlu
      have hget : F.get e.1 = e.2 := Util.get_of_mem hk he
      refine ⟨unit, hu, ⟨h, by rw [hname, hget]; exact hh, h1.symm⟩, ?_, h3, ?_⟩
      · rw [hname, h1]; exact h2
      · rw [h1]; exact h4
  · rintro ⟨u, hu, ⟨h, hh, hidx⟩, hl, hlock, hins⟩
    have hne : F.get u.name ≠ [] := fun e => by rw [e] at hh; cases hh
    refine ⟨(u.name, F.get u.name), Util.mem_of_get_ne_nil hne, ?_⟩
    rw [entryReqs_of_mem hn hu, List.mem_flatMap]
    refine ⟨h, hh, mem_instrReqs.2 ⟨hidx.symm, ?_, hlock, ?_⟩⟩
    · rw [hidx]; exact hl
    · rw [hidx]; exact hins

theorem rowReqs_nodup (units : List (UnitM N)) (prog : List (Instr N)) (qs : Queues N) (old : Util N) {F : Util N}
    (hk : (AMap.keys F).Nodup) (hnd : RowND F) (r : N) : (rowReqs units prog qs old F r).Nodup := by
  -- `nodup_flatMap_of` twice. Across entries: the owner of a request of an entry is hosted in the entry's unit (`hhost`),
  -- and an instruction has one host. Inside an entry: the owner of a request of an instruction is that instruction, and
  -- the hosted indices are distinct.
  unfold rowReqs
  have hhost : ∀ e ∈ AMap.toList F, ∀ x ∈ entryReqs units prog qs old r e, x.2 ∈ (F.get e.1).map (·.idx) := by
    intro e he x hx
    unfold entryReqs at hx
    cases hlu : lookupUnit units e.1 with
    | none => simp [hlu] at hx
    | some unit =>
      simp only [hlu, List.mem_flatMap] at hx
      obtain ⟨h, hh, hx⟩ := hx
      rw [Util.get_of_mem hk he]
      exact List.mem_map.2 ⟨h, hh, ((mem_instrReqs.1 hx).1).symm⟩
  apply nodup_flatMap_of _ _ (nodup_of_nodup_map Prod.fst hk)
  · intro e he
    unfold entryReqs
    cases hlu : lookupUnit units e.1 with
    | none => exact List.nodup_nil
    | some unit =>
      simp only
      have hidx : (e.2.map (·.idx)).Nodup := by
        have := hnd.nodup_unit e.1
        rwa [Util.get_of_mem hk he] at this
      apply nodup_flatMap_of
      · exact nodup_of_nodup_map (·.idx) hidx
      · intro h _; exact instrReqs_nodup _ _ _ _ _ _
      · intro a ha b hb x hxa hxb
        have h1 := (mem_instrReqs.1 hxa).1
        have h2 := (mem_instrReqs.1 hxb).1
        exact eq_of_map_eq_of_nodup (·.idx) hidx ha hb (h1.symm.trans h2)
  · intro a ha b hb x hxa hxb
    have h1 := hhost a ha x hxa
    have h2 := hhost b hb x hxb
    have hname := hnd.unique_host a.1 b.1 x.2 h1 h2
    have ea : F.get a.1 = a.2 := Util.get_of_mem hk ha
    have eb : F.get b.1 = b.2 := Util.get_of_mem hk hb
    obtain ⟨a1, a2⟩ := a
    obtain ⟨b1, b2⟩ := b
    simp only at hname ea eb
    subst hname
    rw [← ea, ← eb]

theorem rowReqs_servable {p : Proc N} (hn : (p.allUnits.map (·.name)).Nodup) {prog : List (Instr N)}
    {qs : Queues N} {old F : Util N} (hk : (AMap.keys F).Nodup) {r : N} {x : Req}
    (hx : x ∈ rowReqs p.allUnits prog qs old F r) : (qs.get r).canAccess x.1 x.2 = some true := by
  obtain ⟨u, _, _, hl, hlock, ins, hins, hacc⟩ := (mem_rowReqs hn hk).1 hx
  obtain ⟨_, ins', hins', hra⟩ := (labelOf_U_iff _ _ _ _ _).1 hl
  rw [hins] at hins'
  cases hins'
  obtain ⟨_, hrd, hwr⟩ := (regsAvail_some_iff _ _ _ _ _).1 hra
  obtain ⟨w, o⟩ := x
  cases w with
  | false => exact hrd (by simpa [lockOf] using hlock) r (by simpa using hacc)
  | true =>
    have : ins.dst = r := by simpa using hacc
    subst this
    exact hwr (by simpa [lockOf] using hlock)

theorem mem_labelled {p : Proc N} (hn : (p.allUnits.map (·.name)).Nodup) {prog : List (Instr N)} {qs : Queues N}
    {old F : Util N} {lab : Util N × List (N × Nat)} (hlab : labelAll p.allUnits prog qs old F = .ok lab)
    {u : UnitM N} (hu : u ∈ p.allUnits) {h : HI} :
    h ∈ lab.1.get u.name ↔ ∃ y ∈ F.get u.name, h = ⟨y.idx, labelOf prog qs u (old.get u.name) y.idx⟩ := by
  have hg := labelAll_get hlab u.name
  by_cases hne : F.get u.name = []
  · rw [hg.1 hne, hne]; simp
  · obtain ⟨unit, hlu, e⟩ := hg.2 hne
    rw [lookupUnit_of_mem hn hu] at hlu
    cases hlu
    rw [e, List.mem_map]
    constructor
    · rintro ⟨y, hy, rfl⟩; exact ⟨y, hy, rfl⟩
    · rintro ⟨y, hy, rfl⟩; exact ⟨y, hy, rfl⟩

theorem mem_rowReqs_iff_accIn {p : Proc N} (hn : (p.allUnits.map (·.name)).Nodup) {prog : List (Instr N)}
    {qs : Queues N} {old F : Util N} (hk : (AMap.keys F).Nodup) {lab : Util N × List (N × Nat)}
    (hlab : labelAll p.allUnits prog qs old F = .ok lab) {r : N} {x : Req} (hx : x ∈ reqsOf prog r) :
    x ∈ rowReqs p.allUnits prog qs old F r ↔ accIn p lab.1 x.1 x.2 = true := by
  rw [mem_rowReqs hn hk, accIn_iff]
  constructor
  · rintro ⟨u, hu, ⟨h, hh, hidx⟩, hl, hlock, _⟩
    refine ⟨u, hu, hlock, (mem_labelled hn hlab hu).2 ⟨h, hh, ?_⟩⟩
    rw [hidx, hl]
  · rintro ⟨u, hu, hlock, hm⟩
    obtain ⟨y, hy, e⟩ := (mem_labelled hn hlab hu).1 hm
    injection e with e1 e2
    refine ⟨u, hu, ⟨y, hy, e1.symm⟩, ?_, hlock, mem_reqsOf.1 hx⟩
    rw [e1]; exact e2.symm

variable [LT N] [DecidableRel (α := N) (· < ·)]

section hosts
omit [LT N] [DecidableRel (α := N) (· < ·)]

/-- if `x` is hosted by unit `u` in a record without doubly hosted indices, the record shows access `k` of `x.idx`
exactly when `u` holds lock `k` and `x` is unstalled -/
theorem accIn_eq_of_hosted {p : Proc N} (hn : (p.allUnits.map (·.name)).Nodup) {row : Util N} (hnd : RowND row)
    {u : UnitM N} (hu : u ∈ p.allUnits) {x : HI} (hx : x ∈ row.get u.name) (k : Bool) :
    accIn p row k x.idx = (lockOf k u && x.st == .U) := by
  rw [Bool.eq_iff_iff, accIn_iff]
  constructor
  · rintro ⟨v, hv, hl, hm⟩
    have hname : v.name = u.name := hnd.unique_host v.name u.name x.idx
      (List.mem_map.2 ⟨_, hm, rfl⟩) (List.mem_map.2 ⟨x, hx, rfl⟩)
    have hvu : v = u := unit_eq_of_name_eq hn hv hu hname
    subst hvu
    have : (⟨x.idx, .U⟩ : HI) = x := eq_of_map_eq_of_nodup (·.idx) (hnd.nodup_unit v.name) hm hx rfl
    rw [← this]; simp [hl]
  · intro h
    simp only [Bool.and_eq_true, beq_iff_eq] at h
    refine ⟨u, hu, h.1, ?_⟩
    have : (⟨x.idx, .U⟩ : HI) = x := by cases x; simp_all
    rw [this]; exact hx

theorem grantedB_eq_false_of_not_hosted {p : Proc N} {tbl : List (Util N)} {i : Nat}
    (h : ∀ row ∈ tbl, ∀ n, ∀ x ∈ row.get n, x.idx ≠ i) (k : Bool) : grantedB p tbl k i = false := by
  unfold grantedB
  rw [List.any_eq_false]
  intro row hrow hacc
  obtain ⟨u, _, _, hm⟩ := accIn_iff.1 hacc
  exact h row hrow u.name _ hm rfl

/-- **Facts about one hosted instruction** `x` in unit `u`, w.r.t. the recorded rows `tbl`: it has walked from an
input-boundary port along declared connections through units `w` supporting its capability, and access `k` has been
granted to it iff it has passed (or is past the examination in) a unit holding lock `k`. -/
def HostOK (p : Proc N) (prog : List (Instr N)) (tbl : List (Util N)) (u : UnitM N) (x : HI) : Prop :=
  ∃ ins w, prog[x.idx]? = some ins ∧ IsWalk p ins.cap (w ++ [u]) ∧
    (∃ v0 ∈ p.inBoundary, (w ++ [u]).head? = some v0) ∧
    ∀ k, grantedB p tbl k x.idx = (w.any (lockOf k) || (lockOf k u && x.st != .D))

def HostInv (p : Proc N) (prog : List (Instr N)) (s : SimState N) : Prop :=
  ∀ u ∈ p.allUnits, ∀ x ∈ s.util.get u.name, HostOK p prog s.table u x

theorem HostInv.init (p : Proc N) (prog : List (Instr N)) : HostInv p prog (initState prog) := by
  intro u _ x hx
  simp [initState] at hx

/-- **Walk of an arriving or staying instruction.** Whatever the origin of instruction `i` in unit `u` of the next
record (stayed / moved / issued), it has a walk ending in `u`, and access `k` has been granted to it so far iff a unit
before `u` on the walk holds lock `k`, or `u` does and `i` was already loaded there. -/
theorem origin_walk {p : Proc N} {prog : List (Instr N)} (hs : structOK p = true) {s : SimState N}
    (hc : CoreInv p prog s) (hh : HostInv p prog s) {u : UnitM N} (hu : u ∈ p.allUnits) {i e' : Nat}
    (ho : Stayed p s.util u.name i ∨ Moved p prog s.util u.name i ∨ Issued p prog s.entered e' u.name i) :
    ∃ ins w, prog[i]? = some ins ∧ IsWalk p ins.cap (w ++ [u]) ∧
      (∃ v0 ∈ p.inBoundary, (w ++ [u]).head? = some v0) ∧
      ∀ k, grantedB p s.table k i = (w.any (lockOf k) || (lockOf k u && wasLoaded (s.util.get u.name) i)) := by
  have hn := structOK_nodup_names hs
  rcases ho with ⟨y, hy, hyi, _⟩ | ⟨d, hd, hdn, q, hq, y, hy, hyi, hyd, hcap⟩ | ⟨hge, _, port, hport, hpn, hcap⟩
  · obtain ⟨ins, w, hins, hwalk, hstart, hg⟩ := hh u hu y hy
    subst hyi
    refine ⟨ins, w, hins, hwalk, hstart, fun k => ?_⟩
    rw [hg k, wasLoaded_of_mem (hc.nd.nodup_unit u.name) hy]
  · have hqne : s.util.get q ≠ [] := fun e => by rw [e] at hy; cases hy
    obtain ⟨uq, huq, huqn⟩ := List.mem_map.1 (hc.row.names q hqne)
    subst huqn
    obtain ⟨ins, w, hins, hwalk, hstart, hg⟩ := hh uq huq y hy
    subst hyi
    have hdu : d.model = u := unit_eq_of_name_eq hn (model_mem_allUnits_of_mem_dests hd) hu hdn
    obtain ⟨ins', hins', hcap'⟩ := capIn_eq_true hcap
    rw [hins] at hins'; cases hins'
    refine ⟨ins, w ++ [uq], hins, hwalk.snoc (Routes.mem_succsOf.2 ⟨d, hd, hq, hdu⟩) (hdu ▸ hcap'), ?_, fun k => ?_⟩
    · obtain ⟨v0, hv0, hhead⟩ := hstart
      refine ⟨v0, hv0, ?_⟩
      rw [List.head?_append, hhead]; rfl
    · have hwl : wasLoaded (s.util.get u.name) y.idx = false := by
        apply wasLoaded_eq_false_of_not_mem
        intro z hz hzi
        have : u.name = uq.name := hc.nd.unique_host u.name uq.name y.idx
          (List.mem_map.2 ⟨z, hz, hzi⟩) (List.mem_map.2 ⟨y, hy, rfl⟩)
        exact structOK_self_not_pred hs d hd (by rw [hdn, this]; exact hq)
      rw [hg k, hwl, List.any_append]
      have : (y.st != .D) = true := by simpa using hyd
      simp [this]
  · have hpu : port = u := unit_eq_of_name_eq hn (mem_allUnits_of_mem_inBoundary hport) hu hpn
    subst hpu
    obtain ⟨ins, hins, hcap'⟩ := capIn_eq_true hcap
    refine ⟨ins, [], hins, hcap', ⟨port, hport, rfl⟩, fun k => ?_⟩
    have h1 : grantedB p s.table k i = false := by
      apply grantedB_eq_false_of_not_hosted
      intro row hrow n x hx hxi
      have := (hc.rows row hrow).idx_lt n x hx
      omega
    have h2 : wasLoaded (s.util.get port.name) i = false := by
      apply wasLoaded_eq_false_of_not_mem
      intro z hz hzi
      have := hc.row.idx_lt _ z hz
      omega
    rw [h1, h2]; simp

end hosts

theorem HostInv.step {p : Proc N} {prog : List (Instr N)} (hs : structOK p = true) {s s' : SimState N}
    (hc : CoreInv p prog s) (hh : HostInv p prog s) (hr : runCycle p prog s = .ok (some s')) : HostInv p prog s' := by
  have hc' := hc.step hs hr
  obtain ⟨lab, qs, hlab, _, _, rfl⟩ := runCycle_eq_some hr
  have hn := structOK_nodup_names hs
  have hF := fillCycle_issueInv prog s.util s.entered hn (structOK_orderOK hs)
  intro u hu x hx
  obtain ⟨y, hy, rfl⟩ := (mem_labelled hn hlab hu).1 hx
  obtain ⟨ins, w, hins, hwalk, hstart, hg⟩ := origin_walk hs hc hh hu (hF.origin u.name y hy)
  refine ⟨ins, w, hins, hwalk, hstart, fun k => ?_⟩
  show grantedB p (lab.1 :: s.table) k y.idx = _
  have hacc := accIn_eq_of_hosted hn hc'.nd hu hx k
  simp only at hacc
  rw [grantedB_cons, hacc, hg k]
  -- the label is `S` exactly for an instruction loaded before, so "not `D`" is "`U`, or loaded before"
  have hS := labelOf_eq_S_iff prog s.queues u (s.util.get u.name) y.idx
  have hlab : (labelOf prog s.queues u (s.util.get u.name) y.idx != .D) =
      (labelOf prog s.queues u (s.util.get u.name) y.idx == .U || wasLoaded (s.util.get u.name) y.idx) := by
    cases hl : labelOf prog s.queues u (s.util.get u.name) y.idx <;>
      cases hw : wasLoaded (s.util.get u.name) y.idx <;> simp [hl, hw] at hS ⊢
  rw [hlab, Bool.and_or_distrib_left, Bool.or_left_comm]

omit [LT N] [DecidableRel (α := N) (· < ·)] in
/-- **What is known when an instruction is examined** (it has an origin in unit `u` of the next record and is not yet
loaded there): no access of a kind its unit locks has been granted to it before, and in a unit holding only the write
lock its read access has been granted. -/
theorem examined_facts_origin {p : Proc N} {prog : List (Instr N)} (hwf : wfProc p = true) {s : SimState N}
    (hc : CoreInv p prog s) (hh : HostInv p prog s) {u : UnitM N} (hu : u ∈ p.allUnits) {i e' : Nat}
    (ho : Stayed p s.util u.name i ∨ Moved p prog s.util u.name i ∨ Issued p prog s.entered e' u.name i)
    (hwl : wasLoaded (s.util.get u.name) i = false) :
    (u.rd = true → grantedB p s.table false i = false) ∧
    (u.wr = true → grantedB p s.table true i = false) ∧
    (u.wr = true → u.rd = false → grantedB p s.table false i = true) := by
  obtain ⟨ins, w, hins, hwalk, hstart, hg⟩ := origin_walk (structOK_of_wfProc hwf) hc hh hu ho
  obtain ⟨h1, h3⟩ := walk_locks hwf hwalk hstart
  refine ⟨fun hr => ?_, fun hw => ?_, fun hw hr => ?_⟩
  · rw [hg false, hwl, h1 false hr]; simp
  · rw [hg true, hwl, h1 true hw]; simp
  · rw [hg false, hwl, h3 hw hr]; simp

theorem examined_facts {p : Proc N} {prog : List (Instr N)} (hwf : wfProc p = true) {s : SimState N}
    (hc : CoreInv p prog s) (hh : HostInv p prog s) {u : UnitM N} (hu : u ∈ p.allUnits) {x : HI}
    (hx : x ∈ (fillCycle p prog s.util s.entered).1.get u.name)
    (hwl : wasLoaded (s.util.get u.name) x.idx = false) :
    (u.rd = true → grantedB p s.table false x.idx = false) ∧
    (u.wr = true → grantedB p s.table true x.idx = false) ∧
    (u.wr = true → u.rd = false → grantedB p s.table false x.idx = true) :=
  examined_facts_origin hwf hc hh hu
    ((fillCycle_issueInv prog s.util s.entered (wfProc_nodup_names hwf) (wfProc_orderOK hwf)).origin u.name x hx) hwl

omit [LT N] [DecidableRel (α := N) (· < ·)] in
theorem instrReqs_own_pair {prog : List (Instr N)} {qs : Queues N} {u : UnitM N} {old : List HI} {r : N} {i : Nat}
    {ins : Instr N} (hl : labelOf prog qs u old i = .U) (hins : prog[i]? = some ins) (hrd : u.rd = true)
    (hwr : u.wr = true) (hsrc : r ∈ ins.srcs) (hdst : ins.dst = r) :
    instrReqs prog qs u old r i = [(false, i), (true, i)] := by
  simp [instrReqs, reqsOfInstr, hl, hins, hrd, hwr, hsrc, hdst]

omit [LT N] [DecidableRel (α := N) (· < ·)] in
theorem instrReqs_sublist_rowReqs {p : Proc N} (hn : (p.allUnits.map (·.name)).Nodup) (prog : List (Instr N))
    (qs : Queues N) (old : Util N) {F : Util N} {u : UnitM N} (hu : u ∈ p.allUnits) {h : HI}
    (hm : h ∈ F.get u.name) (r : N) :
    (instrReqs prog qs u (old.get u.name) r h.idx).Sublist (rowReqs p.allUnits prog qs old F r) := by
  have h1 := sublist_flatMap_of_mem (entryReqs p.allUnits prog qs old r)
    (Util.mem_of_get_ne_nil (List.ne_nil_of_mem hm))
  rw [entryReqs_of_mem hn hu] at h1
  have h2 := sublist_flatMap_of_mem (fun x => instrReqs prog qs u (old.get u.name) r x.idx) hm
  exact h2.trans h1

/-- **The dequeues of one cycle, register by register, at request level**: removing the owners of the granted requests
in encounter order never fails and removes exactly the granted requests. -/
theorem rowReqs_batch {p : Proc N} {prog : List (Instr N)} (hwf : wfProc p = true) {s : SimState N}
    (hc : CoreInv p prog s) (hinv : PlanInv p prog s) (hh : HostInv p prog s) (r : N) :
    runSpec (abs (s.queues.get r))
      ((rowReqs p.allUnits prog s.queues s.util (fillCycle p prog s.util s.entered).1 r).map (·.2)) =
      some ((abs (s.queues.get r)).filter
        (fun x => decide (x ∉ rowReqs p.allUnits prog s.queues s.util (fillCycle p prog s.util s.entered).1 r))) := by
  have hn := wfProc_nodup_names hwf
  have hFb := hc.row.after_fillCycle hn prog
  have hst := structOK_of_wfProc hwf
  have hFnd := hc.nd.after_fillCycle hc.row hn (structOK_preds_nodup hst) (structOK_self_not_pred hst) prog
  have hk := hFb.keys_nodup
  exact runSpec_batch (sorted_nodup (hinv.sorted r))
    (rowReqs p.allUnits prog s.queues s.util (fillCycle p prog s.util s.entered).1 r)
    (rowReqs_nodup _ _ _ _ hk hFnd r)
    (fun x hx => by rw [← C19_canAccess_refines _ (hinv.wf r)]; exact rowReqs_servable hn hk hx)
    (by
      intro o ho hpend
      obtain ⟨u, hu, ⟨h, hm, hidx⟩, hl, hlock, ins, hins, hacc⟩ := (mem_rowReqs hn hk).1 ho
      simp only at hidx hl hlock hins hacc
      obtain ⟨hreq, hng⟩ := hinv.mem_abs.1 hpend
      obtain ⟨ins', hins', hsrc⟩ := mem_reqsOf.1 hreq
      simp only at hins' hsrc hng
      rw [hins] at hins'; cases hins'
      have hsrc' : r ∈ ins.srcs := by simpa using hsrc
      have hacc' : ins.dst = r := by simpa using hacc
      have hwr : u.wr = true := by simpa [lockOf] using hlock
      cases hrd : u.rd with
      | false =>
        have hwl := ((labelOf_U_iff _ _ _ _ _).1 hl).1
        have := (examined_facts hwf hc hh hu hm (by rw [hidx]; exact hwl)).2.2 hwr hrd
        rw [hidx, hng] at this; cases this
      | true =>
        rw [← hidx, ← instrReqs_own_pair (hidx ▸ hl) (hidx ▸ hins) hrd hwr hsrc' hacc']
        exact instrReqs_sublist_rowReqs hn prog s.queues s.util hu hm r)

/-- **The deferred dequeues of a cycle on register `r`** never raise, and leave pending what was pending and has not
been granted in the cycle. -/
theorem cycle_history {p : Proc N} {prog : List (Instr N)} (hwf : wfProc p = true) (hprog : ProgOK prog)
    {s : SimState N} (hc : CoreInv p prog s) (hinv : PlanInv p prog s) (hh : HostInv p prog s)
    {lab : Util N × List (N × Nat)}
    (hlab : labelAll p.allUnits prog s.queues s.util (fillCycle p prog s.util s.entered).1 = .ok lab) (r : N) :
    ∃ q', runHistory (s.queues.get r) ((lab.2.filter (fun c => decide (c.1 = r))).map (·.2)) = some q' ∧
      abs q' = (abs (s.queues.get r)).filter
        (fun x => decide (x ∉ rowReqs p.allUnits prog s.queues s.util (fillCycle p prog s.util s.entered).1 r)) := by
  rw [clears_owners hprog hlab r]
  have href := C19_history_refines _ (hinv.wf r)
    ((rowReqs p.allUnits prog s.queues s.util (fillCycle p prog s.util s.entered).1 r).map (·.2))
  rw [rowReqs_batch hwf hc hinv hh r] at href
  cases hr : runHistory (s.queues.get r)
      ((rowReqs p.allUnits prog s.queues s.util (fillCycle p prog s.util s.entered).1 r).map (·.2)) with
  | none => rw [hr] at href; cases href
  | some q' => rw [hr] at href; exact ⟨q', rfl, by simpa using href⟩

/-- **The queue invariant is preserved by a cycle.** In particular no `dequeue` of the cycle fails or removes a request
other than the one granted. -/
theorem PlanInv.step {p : Proc N} {prog : List (Instr N)} (hwf : wfProc p = true) (hprog : ProgOK prog)
    {s s' : SimState N} (hc : CoreInv p prog s) (hinv : PlanInv p prog s) (hh : HostInv p prog s)
    (hs : runCycle p prog s = .ok (some s')) : PlanInv p prog s' := by
  obtain ⟨lab, qs, hlab, hclr, _, rfl⟩ := runCycle_eq_some hs
  have hn := wfProc_nodup_names hwf
  have hk := (hc.row.after_fillCycle hn prog).keys_nodup
  have main : ∀ r, WFq (qs.get r) ∧
      abs (qs.get r) = (abs (s.queues.get r)).filter
        (fun x => decide (x ∉ rowReqs p.allUnits prog s.queues s.util (fillCycle p prog s.util s.entered).1 r)) := by
    intro r
    obtain ⟨q', hq', habs⟩ := cycle_history hwf hprog hc hinv hh hlab r
    have hrun := applyClears_runHistory hclr r
    rw [hq'] at hrun
    cases hrun
    exact ⟨C19_history_wf (hinv.wf r) hq', habs⟩
  refine ⟨fun r => (main r).1, fun r => ?_⟩
  show abs (qs.get r) = (reqsOf prog r).filter (fun x => !grantedB p (lab.1 :: s.table) x.1 x.2)
  rw [(main r).2, hinv.abs_eq, List.filter_filter]
  apply List.filter_congr
  intro x hx
  rw [grantedB_cons]
  have := mem_rowReqs_iff_accIn hn hk hlab hx
  by_cases hm : x ∈ rowReqs p.allUnits prog s.queues s.util (fillCycle p prog s.util s.entered).1 r
  · simp [hm, this.1 hm]
  · have : accIn p lab.1 x.1 x.2 = false := Bool.eq_false_iff.2 fun h => hm (this.2 h)
    simp [hm, this]

structure HazardInv (p : Proc N) (prog : List (Instr N)) (s : SimState N) : Prop where
  core : CoreInv p prog s
  plan : PlanInv p prog s
  host : HostInv p prog s

theorem HazardInv.init (p : Proc N) (prog : List (Instr N)) : HazardInv p prog (initState prog) :=
  ⟨CoreInv.init p prog, PlanInv.init p prog, HostInv.init p prog⟩

theorem HazardInv.step {p : Proc N} {prog : List (Instr N)} (hwf : wfProc p = true) (hprog : ProgOK prog)
    {s s' : SimState N} (h : HazardInv p prog s) (hs : runCycle p prog s = .ok (some s')) : HazardInv p prog s' :=
  ⟨h.core.step (structOK_of_wfProc hwf) hs, h.plan.step hwf hprog h.core h.host hs,
    h.host.step (structOK_of_wfProc hwf) h.core hs⟩

theorem Diagram_hazard_rows {p : Proc N} {prog : List (Instr N)} (hwf : wfProc p = true) (hprog : ProgOK prog)
    {tbl : List (Util N)} {stalled : Bool} (hd : Diagram p prog tbl stalled) {t : Nat} (ht : t < tbl.length) :
    ∃ s s', HazardInv p prog s ∧ s.table = (tbl.take t).reverse ∧ runCycle p prog s = .ok (some s') ∧
      s'.util = tbl.getD t ([] : List (N × List HI)) ∧ s'.table = (tbl.take (t + 1)).reverse :=
  simulate_rows (HazardInv p prog) (HazardInv.init p prog) (fun _ _ h hs => h.step hwf hprog hs) tbl stalled hd t ht

end Hazards
end ProcSim
