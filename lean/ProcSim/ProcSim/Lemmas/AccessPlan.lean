import ProcSim.Lemmas.SimCore
import ProcSim.Props.C19
/-!
# The register access plan

`reqsOf prog r` lists the requests that `buildPlan prog` registers on register `r`: for every instruction its read (if
`r` is a source), then its write (if `r` is the destination). The queue the plan holds for `r` is `Queue.build` of
that list (`buildPlan_get`); the list is strictly sorted by `key`, which is the hypothesis "registered in program
order" of C19, so the queue is well formed and stands for exactly these requests (`wf_buildPlan`, `abs_buildPlan`).
-/
namespace ProcSim
open Spec QueueLemmas

attribute [local implicit_reducible] AMap

variable {N : Type} [DecidableEq N]

namespace Hazards

def reqsOfInstr (r : N) (i : Nat) (ins : Instr N) : List Req :=
  (if r ∈ ins.srcs then [(false, i)] else []) ++ (if ins.dst = r then [(true, i)] else [])

def reqsFrom (r : N) : Nat → List (Instr N) → List Req
  | _, [] => []
  | i, ins :: rest => reqsOfInstr r i ins ++ reqsFrom r (i + 1) rest

def reqsOf (prog : List (Instr N)) (r : N) : List Req := reqsFrom r 0 prog

/-- the sources of every instruction are pairwise distinct (guaranteed by the `HwInstruction` constructor, which
stores the sorted, de-duplicated tuple of sources) -/
def ProgOK (prog : List (Instr N)) : Prop := ∀ ins ∈ prog, ins.srcs.Nodup

def progOK (prog : List (Instr N)) : Bool := prog.all (fun ins => decide ins.srcs.Nodup)

theorem progOK_iff (prog : List (Instr N)) : progOK prog = true ↔ ProgOK prog := by
  simp [progOK, ProgOK]

theorem addReads_get (qs : Queues N) (i : Nat) (srcs : List N) (r : N) :
    (addReads qs i srcs).get r = if r ∈ srcs then (qs.get r).push false i else qs.get r := by
  induction srcs generalizing qs with
  | nil => simp [addReads]
  | cons a rs ih =>
    unfold addReads
    rw [ih, Queues.get_set]
    by_cases ha : a = r
    · subst ha
      by_cases hr : a ∈ rs
      · simp [hr, push_false_idem]
      · simp [hr]
    · have ha' : ¬ r = a := fun e => ha e.symm
      simp [ha, ha']

theorem addInstr_get (qs : Queues N) (i : Nat) (ins : Instr N) (r : N) :
    (addInstr qs i ins).get r = (reqsOfInstr r i ins).foldl (fun q x => q.push x.1 x.2) (qs.get r) := by
  unfold addInstr reqsOfInstr
  simp only [Queues.get_set, addReads_get]
  by_cases hd : ins.dst = r
  · subst hd
    by_cases hs : ins.dst ∈ ins.srcs <;> simp [hs]
  · by_cases hs : r ∈ ins.srcs <;> simp [hs, hd]

theorem buildPlanFrom_get (qs : Queues N) (i : Nat) (prog : List (Instr N)) (r : N) :
    (buildPlanFrom qs i prog).get r = (reqsFrom r i prog).foldl (fun q x => q.push x.1 x.2) (qs.get r) := by
  induction prog generalizing qs i with
  | nil => rfl
  | cons ins rest ih =>
    unfold buildPlanFrom reqsFrom
    rw [ih, addInstr_get, List.foldl_append]

theorem buildPlan_get (prog : List (Instr N)) (r : N) : (buildPlan prog).get r = Queue.build (reqsOf prog r) := by
  unfold buildPlan reqsOf Queue.build
  rw [buildPlanFrom_get]
  rfl

theorem mem_reqsOfInstr {r : N} {i : Nat} {ins : Instr N} {x : Req} :
    x ∈ reqsOfInstr r i ins ↔ x.2 = i ∧ (if x.1 then ins.dst = r else r ∈ ins.srcs) := by
  obtain ⟨w, o⟩ := x
  unfold reqsOfInstr
  by_cases hs : r ∈ ins.srcs <;> by_cases hd : ins.dst = r <;> cases w <;> simp [hs, hd, eq_comm]

theorem reqsOfInstr_sorted (r : N) (i : Nat) (ins : Instr N) : Sorted (reqsOfInstr r i ins) := by
  unfold reqsOfInstr
  by_cases hs : r ∈ ins.srcs <;> by_cases hd : ins.dst = r <;> simp [hs, hd, key]

theorem reqsFrom_eq (r : N) (i : Nat) (prog : List (Instr N)) :
    reqsFrom r i prog = (prog.zipIdx i).flatMap (fun x => reqsOfInstr r x.2 x.1) := by
  induction prog generalizing i with
  | nil => rfl
  | cons ins rest ih => rw [reqsFrom, ih, List.zipIdx_cons, List.flatMap_cons]

theorem mem_reqsFrom {r : N} {i : Nat} {prog : List (Instr N)} {x : Req} :
    x ∈ reqsFrom r i prog ↔
      ∃ ins, i ≤ x.2 ∧ prog[x.2 - i]? = some ins ∧ (if x.1 then ins.dst = r else r ∈ ins.srcs) := by
  simp only [reqsFrom_eq, List.mem_flatMap, Prod.exists, List.mem_zipIdx_iff_le_and_getElem?_sub, mem_reqsOfInstr]
  constructor
  · rintro ⟨ins, j, ⟨h1, h2⟩, rfl, h3⟩
    exact ⟨ins, h1, h2, h3⟩
  · rintro ⟨ins, h1, h2, h3⟩
    exact ⟨ins, x.2, ⟨h1, h2⟩, rfl, h3⟩

theorem mem_reqsOf {prog : List (Instr N)} {r : N} {x : Req} :
    x ∈ reqsOf prog r ↔ ∃ ins, prog[x.2]? = some ins ∧ (if x.1 then ins.dst = r else r ∈ ins.srcs) := by
  unfold reqsOf
  rw [mem_reqsFrom]
  simp

theorem reqsFrom_sorted (r : N) (i : Nat) (prog : List (Instr N)) : Sorted (reqsFrom r i prog) := by
  induction prog generalizing i with
  | nil => exact List.Pairwise.nil
  | cons ins rest ih =>
    unfold reqsFrom
    rw [Sorted, List.pairwise_append]
    refine ⟨reqsOfInstr_sorted r i ins, ih (i + 1), fun a ha b hb => key_lt_iff.2 (Or.inl ?_)⟩
    have h1 := (mem_reqsOfInstr.1 ha).1
    obtain ⟨_, h2, _⟩ := mem_reqsFrom.1 hb
    omega

theorem reqsOf_sorted (prog : List (Instr N)) (r : N) : Sorted (reqsOf prog r) := reqsFrom_sorted r 0 prog

theorem programOrder_reqsOf (prog : List (Instr N)) (r : N) : programOrder (reqsOf prog r) = true :=
  (programOrder_iff_sorted _).2 (reqsOf_sorted prog r)

theorem reqsOf_nodup (prog : List (Instr N)) (r : N) : (reqsOf prog r).Nodup :=
  sorted_nodup (reqsOf_sorted prog r)

theorem abs_buildPlan (prog : List (Instr N)) (r : N) : abs ((buildPlan prog).get r) = reqsOf prog r := by
  rw [buildPlan_get]
  exact C19_abs_build _ (RunsDistinct_of_nodup (reqsOf_nodup prog r))

theorem wf_buildPlan (prog : List (Instr N)) (r : N) : WFq ((buildPlan prog).get r) := by
  rw [buildPlan_get]; exact C19_build_wf _

end Hazards
end ProcSim
