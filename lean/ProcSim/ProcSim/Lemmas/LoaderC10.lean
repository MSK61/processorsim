import ProcSim.Lemmas.LoaderGraph
/-!
# What the stages up to the dead-end removal leave of a description (C09, C10, C11)

The graph `_create_graph` builds is the declarative reading `dgOf` of the description: same names and connections,
the declared capabilities in the spelling of their first occurrence, which is also what the final registry returns.
Forward propagation (`cleanStruct`) then leaves every unit with exactly the capabilities some input port feeds it
along declaring units (`FeedsG`, by induction along `topoOrder`) and keeps exactly the connections whose ends share
one. The removal of capability-less units and of dead ends keeps exactly the live units (`LiveG`): the loop never
removes a live unit, so an accepting run ends with all of them and nothing else, and a rejecting run names an input
port that is not live. `LivePart` collects what is then known about the created and the pruned graph, `Pruned` adds
the description; C09, C10 and the last stage of C11 start from there. All of it is transferred to the walk-based
notions of the specification (`DG.Feeds`, `DG.KeptConn`, `DG.Live`) through `DGMatch`.
-/
namespace ProcSim
namespace Loader
open Spec

variable {N : Type} [DecidableEq N] (fold : N → N)

/-- standard spelling w.r.t. a list `T` of spellings read in order: the first member of `T` that folds to the same
(the model's `stdCap` for the registry `T`; `stdIn_eq_stdCapName` ties it to the specification's `stdCapName`) -/
def stdIn (T : List N) (c : N) : N := (lookupFold fold T c).getD c

theorem lookupFold_append (l₁ l₂ : List N) (x : N) :
    lookupFold fold (l₁ ++ l₂) x = (lookupFold fold l₁ x).or (lookupFold fold l₂ x) := by
  simp [lookupFold, List.find?_append]

theorem lookupFold_congr {l : List N} {x y : N} (h : fold x = fold y) : lookupFold fold l x = lookupFold fold l y := by
  simp [lookupFold, h]

theorem lookupFold_cons (a : N) (l : List N) (x : N) :
    lookupFold fold (a :: l) x = if fold a = fold x then some a else lookupFold fold l x := by
  by_cases h : fold a = fold x <;> simp [lookupFold, h]

theorem lookupFold_singleton (c x : N) : lookupFold fold [c] x = if fold c = fold x then some c else none := by
  rw [lookupFold_cons]; rfl

/-- a spelling that `P` already answers for adds nothing at the end of `P` -/
theorem lookupFold_snoc_of_isSome {P : List N} {c : N} (h : (lookupFold fold P c).isSome = true) (x : N) :
    lookupFold fold (P ++ [c]) x = lookupFold fold P x := by
  rw [lookupFold_append, lookupFold_singleton]
  by_cases hx : fold c = fold x
  · rw [lookupFold_congr fold hx] at h
    obtain ⟨z, hz⟩ := Option.isSome_iff_exists.1 h
    rw [hz, Option.some_or]
  · rw [if_neg hx, Option.or_none]

theorem loadCaps_cons (c : N) (cs seen reg : List N) :
    loadCaps fold (c :: cs) seen reg =
      match lookupFold fold seen c with
      | some _ => loadCaps fold cs seen reg
      | none =>
        match lookupFold fold reg c with
        | some s => (s :: (loadCaps fold cs (c :: seen) reg).1, (loadCaps fold cs (c :: seen) reg).2)
        | none => (c :: (loadCaps fold cs (c :: seen) (reg ++ [c])).1, (loadCaps fold cs (c :: seen) (reg ++ [c])).2) :=
  rfl

theorem fold_stdIn (T : List N) (c : N) : fold (stdIn fold T c) = fold c := by
  unfold stdIn
  cases h : lookupFold fold T c with
  | none => rfl
  | some y => exact (lookupFold_some fold h).2

theorem stdIn_congr (T : List N) {x y : N} (h : fold x = fold y) (hs : (lookupFold fold T x).isSome = true) :
    stdIn fold T x = stdIn fold T y := by
  unfold stdIn
  rw [← lookupFold_congr fold h]
  obtain ⟨z, hz⟩ := Option.isSome_iff_exists.1 hs
  simp [hz]

/-- `_load_caps` on the rest `cs` of one unit's capability list. `T` is the stream of all capability spellings of the
description in reading order, cut as `P ++ cs ++ R`: `P` has been read (by earlier units and by this one), `R` belongs
to later units; `seen` holds the spellings of this unit met so far. The invariant is that the registry `reg` answers
every look-up as `P` does; it is kept (with `P ++ cs`), so a capability is stored in the spelling of its first
occurrence in `T`, `stdIn fold T`. The unit gets the standard spellings of the members of `cs` that do not fold to
a spelling in `seen`, pairwise different up to `fold`. -/
theorem loadCaps_spec (T : List N) : ∀ (cs seen reg P R : List N),
    (∀ x, lookupFold fold reg x = lookupFold fold P x) → (∀ y ∈ seen, (lookupFold fold P y).isSome = true) →
    T = P ++ cs ++ R →
    (∀ x, lookupFold fold (loadCaps fold cs seen reg).2 x = lookupFold fold (P ++ cs) x) ∧
    (∀ c, c ∈ (loadCaps fold cs seen reg).1 ↔ ∃ c0 ∈ cs, (∀ y ∈ seen, fold y ≠ fold c0) ∧ c = stdIn fold T c0) ∧
    (loadCaps fold cs seen reg).1.Pairwise (fun a b => fold a ≠ fold b) := by
  intro cs
  induction cs with
  | nil =>
    intro seen reg P R hreg hseen hT
    refine ⟨?_, ?_, List.Pairwise.nil⟩
    · rw [List.append_nil]; exact hreg
    · intro c; exact ⟨fun h => (nomatch h), fun ⟨_, h, _⟩ => (nomatch h)⟩
  | cons c cs IH =>
    intro seen reg P R hreg hseen hT
    have hT' : T = (P ++ [c]) ++ cs ++ R := by rw [hT, List.append_cons P c cs]
    rw [List.append_cons P c cs, loadCaps_cons]
    split
    next y hy =>
      -- an equal capability (up to case) was already listed for this unit
      have hy' := lookupFold_some fold hy
      have hPc : (lookupFold fold P c).isSome = true := by
        rw [← lookupFold_congr fold hy'.2]; exact hseen y hy'.1
      have hreg' : ∀ x, lookupFold fold reg x = lookupFold fold (P ++ [c]) x :=
        fun x => (hreg x).trans (lookupFold_snoc_of_isSome fold hPc x).symm
      have hseen' : ∀ y ∈ seen, (lookupFold fold (P ++ [c]) y).isSome = true := by
        intro z hz; rw [lookupFold_append]; simp [hseen z hz]
      have ih := IH seen reg (P ++ [c]) R hreg' hseen' hT'
      refine ⟨ih.1, ?_, ih.2.2⟩
      intro x
      rw [ih.2.1]
      constructor
      · rintro ⟨c0, hc0, h1, h2⟩; exact ⟨c0, List.mem_cons_of_mem _ hc0, h1, h2⟩
      · rintro ⟨c0, hc0, h1, h2⟩
        rcases List.mem_cons.1 hc0 with rfl | hc0
        · exact absurd hy'.2 (h1 y hy'.1)
        · exact ⟨c0, hc0, h1, h2⟩
    next hnone =>
      rw [lookupFold_eq_none] at hnone
      have hseen' : ∀ y ∈ c :: seen, (lookupFold fold (P ++ [c]) y).isSome = true := by
        intro z hz
        rw [lookupFold_append, lookupFold_singleton]
        rcases List.mem_cons.1 hz with rfl | hz
        · cases lookupFold fold P z <;> simp
        · simp [hseen z hz]
      have hstd : ∀ c0, fold c0 = fold c → stdIn fold T c0 = stdIn fold T c := by
        intro c0 h0
        apply stdIn_congr fold T h0
        rw [hT, List.append_assoc, lookupFold_append, List.cons_append, lookupFold_cons, if_pos h0.symm]
        cases lookupFold fold P c0 <;> simp
      -- shared conclusion for both sub-cases
      have fin : ∀ (reg' : List N) (s : N), s = stdIn fold T c →
          (∀ x, lookupFold fold reg' x = lookupFold fold (P ++ [c]) x) →
          (∀ x, lookupFold fold (loadCaps fold cs (c :: seen) reg').2 x = lookupFold fold (P ++ [c] ++ cs) x) ∧
          (∀ x, x ∈ s :: (loadCaps fold cs (c :: seen) reg').1 ↔
            ∃ c0 ∈ c :: cs, (∀ y ∈ seen, fold y ≠ fold c0) ∧ x = stdIn fold T c0) ∧
          (s :: (loadCaps fold cs (c :: seen) reg').1).Pairwise (fun a b => fold a ≠ fold b) := by
        intro reg' s hs hreg'
        have ih := IH (c :: seen) reg' (P ++ [c]) R hreg' hseen' hT'
        refine ⟨ih.1, ?_, ?_⟩
        · intro x
          rw [List.mem_cons, ih.2.1]
          constructor
          · rintro (rfl | ⟨c0, hc0, h1, h2⟩)
            · exact ⟨c, List.mem_cons_self, hnone, hs⟩
            · exact ⟨c0, List.mem_cons_of_mem _ hc0, fun y hy => h1 y (List.mem_cons_of_mem _ hy), h2⟩
          · rintro ⟨c0, hc0, h1, h2⟩
            rcases List.mem_cons.1 hc0 with rfl | hc0
            · exact .inl (h2.trans hs.symm)
            · by_cases hcc : fold c = fold c0
              · exact .inl (by rw [h2, hs]; exact hstd c0 hcc.symm)
              · refine .inr ⟨c0, hc0, ?_, h2⟩
                intro y hy
                rcases List.mem_cons.1 hy with rfl | hy
                · exact hcc
                · exact h1 y hy
        · refine List.pairwise_cons.2 ⟨?_, ih.2.2⟩
          intro b hb
          obtain ⟨c0, -, h1, rfl⟩ := (ih.2.1 b).1 hb
          rw [hs, fold_stdIn fold T, fold_stdIn fold T]
          exact h1 c List.mem_cons_self
      split
      next s hsome =>
        have hPc : lookupFold fold P c = some s := (hreg c).symm.trans hsome
        refine fin reg s ?_ ?_
        · unfold stdIn
          rw [hT, List.append_assoc, lookupFold_append, hPc]; rfl
        · exact fun x => (hreg x).trans (lookupFold_snoc_of_isSome fold (hPc ▸ rfl) x).symm
      next hnone' =>
        refine fin (reg ++ [c]) c ?_ ?_
        · unfold stdIn
          rw [hT, List.append_assoc, lookupFold_append, ← hreg, hnone', List.cons_append, lookupFold_cons]
          simp
        · intro x
          rw [lookupFold_append, lookupFold_append, hreg]

/-- unit `x` of the description and node `n` of a working graph agree in everything but the capabilities (which
`clean_struct` changes) -/
structure SameUnit (x : UnitD N) (n : GNode N) : Prop where
  name : x.name = n.name
  width : x.width = n.width
  rd : x.rd = n.rd
  wr : x.wr = n.wr
  acl : x.acl = n.acl

/-- node `n` of the working graph was made from unit `u` of the description (`T` = all capability spellings in order) -/
structure NodeOf (T : List N) (n : GNode N) (u : UnitD N) : Prop extends SameUnit u n where
  caps : ∀ c, c ∈ n.caps ↔ c ∈ u.caps.map (stdIn fold T)
  capsNodup : n.caps.Nodup

inductive Forall2 {α β : Type} (R : α → β → Prop) : List α → List β → Prop
  | nil : Forall2 R [] []
  | cons {a : α} {b : β} {l₁ : List α} {l₂ : List β} : R a b → Forall2 R l₁ l₂ → Forall2 R (a :: l₁) (b :: l₂)

/-- the same invariant (`reg` answers as `P`, the spellings read so far) along the units: every node is made from
its unit, with the capabilities in the spelling of their first occurrence in `T` -/
theorem addUnits_spec (T : List N) : ∀ (us : List (UnitD N)) (names reg P R : List N) (r : List (GNode N) × List N),
    addUnits fold us names reg = .ok r → (∀ x, lookupFold fold reg x = lookupFold fold P x) →
    T = P ++ us.flatMap (·.caps) ++ R →
    (∀ x, lookupFold fold r.2 x = lookupFold fold (P ++ us.flatMap (·.caps)) x) ∧ Forall2 (NodeOf fold T) r.1 us
  | [], _, reg, P, R, r, h, hreg, _ => by
    cases h
    exact ⟨by simpa using hreg, .nil⟩
  | u :: us, names, reg, P, R, r, h, hreg, hT => by
    obtain ⟨-, -, r', hr', rfl⟩ := (addUnits_cons_ok_iff fold).1 h
    have hT1 : T = P ++ u.caps ++ (us.flatMap (·.caps) ++ R) := by simp [hT]
    have hl := loadCaps_spec fold T u.caps [] reg P _ hreg (by simp) hT1
    have hT2 : T = (P ++ u.caps) ++ us.flatMap (·.caps) ++ R := by simp [hT]
    have ih := addUnits_spec T us _ _ (P ++ u.caps) R r' hr' hl.1 hT2
    refine ⟨?_, .cons ⟨⟨rfl, rfl, rfl, rfl, rfl⟩, ?_, ?_⟩ ih.2⟩
    · intro x; rw [ih.1]; simp
    · intro c
      rw [hl.2.1]
      simp only [List.not_mem_nil, false_imp_iff, implies_true, true_and, List.mem_map]
      constructor
      · rintro ⟨c0, h0, rfl⟩; exact ⟨c0, h0, rfl⟩
      · rintro ⟨c0, h0, rfl⟩; exact ⟨c0, h0, rfl⟩
    · exact hl.2.2.imp (fun hab heq => hab (congrArg fold heq))

theorem Forall2.left {α β : Type} {R : α → β → Prop} {l₁ : List α} {l₂ : List β} (h : Forall2 R l₁ l₂) :
    ∀ a ∈ l₁, ∃ b ∈ l₂, R a b := by
  induction h with
  | nil => simp
  | cons hab _ ih =>
    intro x hx
    rcases List.mem_cons.1 hx with rfl | hx
    · exact ⟨_, List.mem_cons_self, hab⟩
    · obtain ⟨b, hb, hr⟩ := ih x hx; exact ⟨b, List.mem_cons_of_mem _ hb, hr⟩

theorem Forall2.right {α β : Type} {R : α → β → Prop} {l₁ : List α} {l₂ : List β} (h : Forall2 R l₁ l₂) :
    ∀ b ∈ l₂, ∃ a ∈ l₁, R a b := by
  induction h with
  | nil => simp
  | cons hab _ ih =>
    intro x hx
    rcases List.mem_cons.1 hx with rfl | hx
    · exact ⟨_, List.mem_cons_self, hab⟩
    · obtain ⟨b, hb, hr⟩ := ih x hx; exact ⟨b, List.mem_cons_of_mem _ hb, hr⟩

section Order
variable [LT N] [DecidableRel (α := N) (· < ·)]

set_option linter.unusedSectionVars false in
theorem stdIn_eq_stdCapName (d : Desc N) (c : N) : stdIn fold (d.units.flatMap (·.caps)) c = stdCapName fold d c := rfl

end Order

theorem createGraph_nodes {d : Desc N} {gr : Graph N × List N} (h : createGraph fold d = .ok gr) :
    Forall2 (NodeOf fold (d.units.flatMap (·.caps))) gr.1.nodes d.units ∧
    (∀ c, stdCap fold gr.2 c = stdCapName fold d c) ∧ ∀ u ∈ d.units, 0 < u.width := by
  obtain ⟨r, es, hr, -, rfl⟩ := (createGraph_eq_ok_iff fold).1 h
  have := addUnits_spec fold (d.units.flatMap (·.caps)) d.units [] [] [] [] r hr (fun _ => rfl) (by simp)
  refine ⟨this.2, ?_, (addUnits_ok fold _ _ _ r hr).2.1⟩
  intro c
  unfold stdCap stdCapName
  simp only
  rw [this.1]
  rfl

theorem createGraph_edges {d : Desc N} {gr : Graph N × List N} (h : createGraph fold d = .ok gr) (e : N × N) :
    e ∈ gr.1.edges ↔ e ∈ connections fold d := by
  obtain ⟨r, es, hr, hes, rfl⟩ := (createGraph_eq_ok_iff fold).1 h
  have hn := (addUnits_ok fold _ _ _ r hr).1
  rw [hn] at hes
  have := (addEdges_ok fold _ _ _ _ hes).2.1 e
  simp only [List.not_mem_nil, false_or] at this
  simp only [this, connections, List.mem_filterMap]
  constructor
  · rintro ⟨a, b, hab, ha, hb⟩
    refine ⟨[a, b], hab, ?_⟩
    simp only [stdName]
    unfold lookupFold at ha hb
    rw [ha, hb]
  · rintro ⟨x, hx, hm⟩
    split at hm
    next a b =>
      split at hm
      next a' b' ha hb =>
        simp only [Option.some.injEq] at hm
        subst hm
        exact ⟨a, b, hx, ha, hb⟩
      · simp at hm
    · simp at hm


/-- some input port feeds `c` to `u` along connections whose units all declare `c` (on the working graph) -/
def FeedsG (g : Graph N) (c : N) : N → Prop :=
  ReachFrom (fun i => i ∈ g.inPorts ∧ c ∈ g.capsOf i) (fun a b => (a, b) ∈ g.edges ∧ c ∈ g.capsOf b)

theorem FeedsG.declared {g : Graph N} {c u : N} (h : FeedsG g c u) : c ∈ g.capsOf u := by
  cases h with
  | base h => exact h.2
  | step _ h => exact h.2

theorem FeedsG.mem_names {g : Graph N} (hg : g.WF) {c u : N} (h : FeedsG g c u) : u ∈ g.names := by
  cases h with
  | base h => exact (Graph.mem_inPorts.1 h.1).1
  | step _ h => exact (hg.edgesIn _ h.1).2

theorem feedsG_iff {g : Graph N} {c u : N} (hu : u ∈ g.names) :
    FeedsG g c u ↔ c ∈ g.capsOf u ∧ ((∀ a, (a, u) ∉ g.edges) ∨ ∃ p, (p, u) ∈ g.edges ∧ FeedsG g c p) := by
  constructor
  · intro h
    cases h with
    | base h => exact ⟨h.2, .inl (Graph.mem_inPorts.1 h.1).2⟩
    | step ha h => exact ⟨h.2, .inr ⟨_, h.1, ha⟩⟩
  · rintro ⟨hc, h | ⟨p, hp, hf⟩⟩
    · exact .base ⟨Graph.mem_inPorts.2 ⟨hu, h⟩, hc⟩
    · exact .step hf ⟨hp, hc⟩

/-- state of `clean_struct` after the units `done` (a prefix of the topological order) have been processed -/
structure CleanedUpTo (g gs : Graph N) (done : List N) : Prop where
  names : gs.names = g.names
  todo : ∀ x, x ∉ done → gs.capsOf x = g.capsOf x
  caps : ∀ x ∈ done, ∀ c, c ∈ gs.capsOf x ↔ FeedsG g c x
  edges : ∀ e, e ∈ gs.edges ↔ e ∈ g.edges ∧ (e.2 ∈ done → ∃ c ∈ g.capsOf e.2, FeedsG g c e.1)
  sub : ∀ x, (gs.capsOf x).Sublist (g.capsOf x)

theorem CleanedUpTo.init (g : Graph N) : CleanedUpTo g g [] :=
  ⟨rfl, fun _ _ => rfl, fun _ h => by simp at h, fun e => by simp, fun _ => List.Sublist.refl _⟩

theorem CleanedUpTo.step {g gs : Graph N} {done : List N} {u : N} (h : CleanedUpTo g gs done) (hu : u ∈ g.names)
    (hnd : u ∉ done) (hpre : ∀ a, (a, u) ∈ g.edges → a ∈ done) : CleanedUpTo g (cleanUnit gs u) (done ++ [u]) := by
  have hu' : u ∈ gs.names := h.names ▸ hu
  have hedge_u : ∀ a, (a, u) ∈ gs.edges ↔ (a, u) ∈ g.edges := fun a => by
    rw [h.edges]; exact ⟨fun h' => h'.1, fun h' => ⟨h', fun hd => absurd hd hnd⟩⟩
  refine ⟨by rw [names_cleanUnit, h.names], ?_, ?_, ?_, ?_⟩
  · intro x hx
    have hxu : x ≠ u := fun hh => hx (hh ▸ List.mem_append_right _ List.mem_cons_self)
    rw [capsOf_cleanUnit_ne hxu]
    exact h.todo x (fun hd => hx (List.mem_append_left _ hd))
  · intro x hx c
    rcases List.mem_append.1 hx with hx | hx
    · have hxu : x ≠ u := fun hh => hnd (hh ▸ hx)
      rw [capsOf_cleanUnit_ne hxu]
      exact h.caps x hx c
    · simp only [List.mem_singleton] at hx
      subst hx
      rw [mem_capsOf_cleanUnit_self hu', feedsG_iff hu, h.todo x hnd]
      refine and_congr_right fun _ => or_congr ?_ ?_
      · exact forall_congr' fun a => not_congr (hedge_u a)
      · refine exists_congr fun p => ?_
        rw [hedge_u]
        exact and_congr_right fun hp => h.caps p (hpre p hp) c
  · intro e
    rw [mem_edges_cleanUnit, h.edges, h.todo u hnd]
    constructor
    · rintro ⟨⟨he, hd⟩, hnew⟩
      refine ⟨he, fun hmem => ?_⟩
      rcases List.mem_append.1 hmem with hmem | hmem
      · exact hd hmem
      · simp only [List.mem_singleton] at hmem
        obtain ⟨c, hc1, hc2⟩ := hnew hmem
        exact ⟨c, hmem ▸ hc1, (h.caps e.1 (hpre e.1 (by rw [← hmem]; exact he)) c).1 hc2⟩
    · rintro ⟨he, hd⟩
      refine ⟨⟨he, fun hmem => hd (List.mem_append_left _ hmem)⟩, fun h2 => ?_⟩
      obtain ⟨c, hc1, hc2⟩ := hd (List.mem_append_right _ (by simp [h2]))
      exact ⟨c, h2 ▸ hc1, (h.caps e.1 (hpre e.1 (by rw [← h2]; exact he)) c).2 hc2⟩
  · intro x
    by_cases hxu : x = u
    · subst hxu
      exact (capsOf_cleanUnit_self_sublist hu').trans (h.sub x)
    · rw [capsOf_cleanUnit_ne hxu]; exact h.sub x

theorem CleanedUpTo.foldl {g : Graph N} (hg : g.WF) : ∀ (todo done : List N) (gs : Graph N),
    topoOrder g = done ++ todo → CleanedUpTo g gs done → CleanedUpTo g (todo.foldl cleanUnit gs) (done ++ todo)
  | [], done, gs, _, h => by simpa using h
  | u :: todo, done, gs, ht, h => by
    have hn := topoOrder_nodup g
    rw [ht] at hn
    have hnd : u ∉ done := fun hd => (List.nodup_append.1 hn).2.2 u hd u List.mem_cons_self rfl
    have hu : u ∈ g.names := topoOrder_subset g (ht ▸ List.mem_append_right _ List.mem_cons_self)
    have hpre : ∀ a, (a, u) ∈ g.edges → a ∈ done := fun a ha => topoOrder_preds_before g ht ha (hg.edgesIn _ ha).1
    have := CleanedUpTo.foldl hg todo (done ++ [u]) (cleanUnit gs u) (by simp [ht]) (h.step hu hnd hpre)
    simpa using this

/-- **fixpoint characterisation of `clean_struct`** on an acyclic well-formed graph -/
theorem cleanStruct_spec {g : Graph N} (hg : g.WF) (hac : isAcyclic g = true) :
    (cleanStruct g).names = g.names ∧
    (∀ x ∈ g.names, ∀ c, c ∈ (cleanStruct g).capsOf x ↔ FeedsG g c x) ∧
    (∀ e, e ∈ (cleanStruct g).edges ↔ e ∈ g.edges ∧ ∃ c ∈ g.capsOf e.2, FeedsG g c e.1) ∧
    (∀ x, ((cleanStruct g).capsOf x).Sublist (g.capsOf x)) := by
  have h : CleanedUpTo g (cleanStruct g) (topoOrder g) := by
    have := CleanedUpTo.foldl hg (topoOrder g) [] g (by simp) (CleanedUpTo.init g)
    simpa [cleanStruct] using this
  refine ⟨h.names, fun x hx => h.caps x ((mem_topoOrder hac).2 hx), fun e => ?_, h.sub⟩
  rw [h.edges]
  exact and_congr_right fun he => ⟨fun h' => h' ((mem_topoOrder hac).2 (hg.edgesIn _ he).2), fun h' _ => h'⟩

def KeptG (g : Graph N) (a b : N) : Prop := (a, b) ∈ g.edges ∧ ∃ c, FeedsG g c a ∧ FeedsG g c b

def LiveG (g : Graph N) (u : N) : Prop := (∃ c, FeedsG g c u) ∧ ReachTo (KeptG g) (fun o => o ∈ g.outPorts) u

theorem cleanStruct_edges {g : Graph N} (hg : g.WF) (hac : isAcyclic g = true) (a b : N) :
    (a, b) ∈ (cleanStruct g).edges ↔ KeptG g a b := by
  rw [(cleanStruct_spec hg hac).2.2.1]
  unfold KeptG
  refine and_congr_right fun he => ?_
  constructor
  · rintro ⟨c, hc, hf⟩; exact ⟨c, hf, .step hf ⟨he, hc⟩⟩
  · rintro ⟨c, hf, hf'⟩; exact ⟨c, hf'.declared, hf⟩

theorem KeptG.fed_left {g : Graph N} {a b : N} (h : KeptG g a b) : ∃ c, FeedsG g c a :=
  let ⟨c, hc, _⟩ := h.2; ⟨c, hc⟩

theorem KeptG.fed_right {g : Graph N} {a b : N} (h : KeptG g a b) : ∃ c, FeedsG g c b :=
  let ⟨c, _, hc⟩ := h.2; ⟨c, hc⟩

theorem KeptG.live_left {g : Graph N} {a b : N} (h : KeptG g a b) (hb : LiveG g b) : LiveG g a :=
  ⟨h.fed_left, .step h hb.2⟩

theorem LiveG.mem_outPorts {g : Graph N} {u : N} (hu : LiveG g u) (h : ∀ b, KeptG g u b → ¬ LiveG g b) :
    u ∈ g.outPorts := by
  cases hu.2 with
  | base ho => exact ho
  | step hk hb => exact absurd ⟨hk.fed_right, hb⟩ (h _ hk)

theorem FeedsG.mem_inPorts {g : Graph N} {c u : N} (h : FeedsG g c u) (hno : ∀ a, ¬ KeptG g a u) : u ∈ g.inPorts := by
  cases h with
  | base hb => exact hb.1
  | step ha hab => exact absurd ⟨hab.1, c, ha, .step ha hab⟩ (hno _)

theorem mem_rmEmpty_dead {g : Graph N} (hg : g.WF) {u : N} (hu : u ∈ g.names) :
    u ∈ (g.nodes.filter (fun n => n.caps.isEmpty)).map (·.name) ↔ g.capsOf u = [] := by
  simp only [List.mem_map, List.mem_filter, List.isEmpty_iff]
  constructor
  · rintro ⟨n, ⟨hn, hc⟩, rfl⟩
    rw [Graph.capsOf_of_mem hg.namesNodup hn]; exact hc
  · intro h
    obtain ⟨n, hn, rfl⟩ := Graph.mem_names.1 hu
    rw [Graph.capsOf_of_mem hg.namesNodup hn] at h
    exact ⟨n, ⟨hn, h⟩, rfl⟩

theorem mem_rmEmpty_names {g : Graph N} (hg : g.WF) {u : N} :
    u ∈ (rmEmpty g).names ↔ u ∈ g.names ∧ g.capsOf u ≠ [] := by
  unfold rmEmpty
  rw [Graph.mem_names_removeNodes]
  exact and_congr_right fun hu => not_congr (mem_rmEmpty_dead hg hu)

theorem mem_rmEmpty_edges {g : Graph N} (hg : g.WF) {e : N × N} :
    e ∈ (rmEmpty g).edges ↔ e ∈ g.edges ∧ g.capsOf e.1 ≠ [] ∧ g.capsOf e.2 ≠ [] := by
  unfold rmEmpty
  rw [Graph.mem_edges_removeNodes]
  refine and_congr_right fun he => and_congr ?_ ?_
  · exact not_congr (mem_rmEmpty_dead hg (hg.edgesIn e he).1)
  · exact not_congr (mem_rmEmpty_dead hg (hg.edgesIn e he).2)

theorem rmEmpty_cleanStruct_spec {g : Graph N} (hg : g.WF) (hac : isAcyclic g = true) :
    (∀ u, u ∈ (rmEmpty (cleanStruct g)).names ↔ ∃ c, FeedsG g c u) ∧
    (∀ a b, (a, b) ∈ (rmEmpty (cleanStruct g)).edges ↔ KeptG g a b) := by
  have hcs := cleanStruct_spec hg hac
  have hwf : (cleanStruct g).WF := hg.cleanStruct
  have hne : ∀ u ∈ g.names, (cleanStruct g).capsOf u ≠ [] ↔ ∃ c, FeedsG g c u := by
    intro u hu
    rw [Ne, List.eq_nil_iff_forall_not_mem, Classical.not_forall]
    exact exists_congr fun c => by rw [Classical.not_not, hcs.2.1 u hu]
  constructor
  · intro u
    rw [mem_rmEmpty_names hwf, hcs.1]
    constructor
    · rintro ⟨hu, h⟩; exact (hne u hu).1 h
    · rintro ⟨c, hc⟩; exact ⟨hc.mem_names hg, (hne u (hc.mem_names hg)).2 ⟨c, hc⟩⟩
  · intro a b
    rw [mem_rmEmpty_edges hwf, cleanStruct_edges hg hac]
    constructor
    · exact fun h => h.1
    · intro h
      obtain ⟨c, hc1, hc2⟩ := h.2
      exact ⟨h, (hne a (hc1.mem_names hg)).2 ⟨c, hc1⟩, (hne b (hc2.mem_names hg)).2 ⟨c, hc2⟩⟩

/-- what the dead-end removal maintains: an induced sub-graph of the cleaned graph that still has every live unit -/
def KeepsLive (g g' : Graph N) : Prop :=
  g'.Induced (rmEmpty (cleanStruct g)) ∧ ∀ u, LiveG g u → u ∈ g'.names

/-- a sink of such a sub-graph that was not an output port originally is not live: one of its kept live successors
would still be there, with the connection -/
theorem KeepsLive.sink_not_live {g g' : Graph N} (hg : g.WF) (hac : isAcyclic g = true) (h : KeepsLive g g') {u : N}
    (hu : u ∈ g'.outPorts) (hno : u ∉ g.outPorts) : ¬ LiveG g u := by
  intro hl
  refine hno (hl.mem_outPorts fun b hk hb => (Graph.mem_outPorts.1 hu).2 b ?_)
  exact (h.1.edges (u, b)).2 ⟨((rmEmpty_cleanStruct_spec hg hac).2 u b).2 hk, h.2 u hl, h.2 b hb⟩

theorem chkTerminals_keepsLive {g : Graph N} (hg : g.WF) (hac : isAcyclic g = true) (fuel : Nat) :
    (∀ g2, chkTerminals g.inPorts g.outPorts fuel (rmEmpty (cleanStruct g)) = .ok g2 → KeepsLive g g2) ∧
    (∀ e, chkTerminals g.inPorts g.outPorts fuel (rmEmpty (cleanStruct g)) = .error e →
      ∃ g' p, KeepsLive g g' ∧ e = .deadInput p ∧ p ∈ g'.outPorts ∧ p ∉ g.outPorts ∧ p ∈ g.inPorts) := by
  refine chkTerminals_inv (P := KeepsLive g) ?_ fuel _
    ⟨Graph.Induced.refl hg.cleanStruct.rmEmpty, fun u hu => ((rmEmpty_cleanStruct_spec hg hac).1 u).2 hu.1⟩
  intro g' h _
  refine ⟨h.1.removeNodes _, fun u hu => Graph.mem_names_removeNodes.2 ⟨h.2 u hu, fun hdead => ?_⟩⟩
  obtain ⟨hout, hno⟩ := List.mem_filter.1 hdead
  exact h.sink_not_live hg hac hout (by simpa using hno) hu

/-- **the graph `chk_terminals` accepts**: exactly the live units and the kept connections between them -/
theorem chkTerminals_live {g g2 : Graph N} (hg : g.WF) (hac : isAcyclic g = true)
    (hchk : chkTerminals g.inPorts g.outPorts ((rmEmpty (cleanStruct g)).nodes.length + 1) (rmEmpty (cleanStruct g)) = .ok g2) :
    (∀ u, u ∈ g2.names ↔ LiveG g u) ∧ (∀ a b, (a, b) ∈ g2.edges ↔ KeptG g a b ∧ LiveG g a ∧ LiveG g b) := by
  have hs := rmEmpty_cleanStruct_spec hg hac
  obtain ⟨hI, hkeep⟩ := (chkTerminals_keepsLive hg hac _).1 g2 hchk
  have hfin := chkTerminals_ok_final _ _ _ (Nat.lt_succ_self _) hchk
  have hreach : ∀ u ∈ g.names, u ∈ g2.names → ReachTo (KeptG g) (fun o => o ∈ g.outPorts) u := by
    apply topo_succ_induction hac (P := fun u => u ∈ g2.names → ReachTo (KeptG g) (fun o => o ∈ g.outPorts) u)
    intro u _ ih hu2
    by_cases hsink : ∀ b, (u, b) ∉ g2.edges
    · exact .base (hfin u (Graph.mem_outPorts.2 ⟨hu2, hsink⟩))
    · obtain ⟨b, hb⟩ := Classical.not_forall.1 hsink
      have hb1 := (hI.edges (u, b)).1 (Classical.not_not.1 hb)
      have hk : KeptG g u b := (hs.2 u b).1 hb1.1
      exact .step hk (ih b (hg.edgesIn _ hk.1).2 hk.1 hb1.2.2)
  have hlive : ∀ u, u ∈ g2.names ↔ LiveG g u := by
    refine fun u => ⟨fun hu => ?_, hkeep u⟩
    obtain ⟨c, hc⟩ := (hs.1 u).1 (hI.names_sublist.subset hu)
    exact ⟨⟨c, hc⟩, hreach u (hc.mem_names hg) hu⟩
  refine ⟨hlive, fun a b => ?_⟩
  rw [hI.edges (a, b), hs.2, hlive, hlive]

/-- **the unit `chk_terminals` rejects**: an original input port that keeps a capability and is not live -/
theorem chkTerminals_dead {g : Graph N} (hg : g.WF) (hac : isAcyclic g = true) {fuel : Nat} {e : LoadError N}
    (h : chkTerminals g.inPorts g.outPorts fuel (rmEmpty (cleanStruct g)) = .error e) :
    ∃ p, e = .deadInput p ∧ p ∈ g.inPorts ∧ (∃ c, FeedsG g c p) ∧ ¬ LiveG g p := by
  obtain ⟨g', p, hk, he, hout, hno, hin⟩ := (chkTerminals_keepsLive hg hac fuel).2 e h
  exact ⟨p, he, hin, ((rmEmpty_cleanStruct_spec hg hac).1 p).1 (hk.1.names_sublist.subset (Graph.mem_outPorts.1 hout).1),
    hk.sink_not_live hg hac hout hno⟩

theorem Spec.DG.feeds_iff_reach {g : DG N} {c u : N} : g.Feeds c u ↔
    ReachFrom (fun i => g.origIn i = true ∧ g.declares i c = true)
      (fun a b => g.conn a b = true ∧ g.declares b c = true) u := by
  unfold DG.Feeds
  rw [reachFrom_iff_walk]
  constructor
  · rintro ⟨r, hw, hd, ⟨i, hi, ho⟩, hl⟩
    have := (WalkR_and_forall (R := fun a b => g.conn a b = true) (D := fun x => g.declares x c = true)).1 ⟨hw, hd⟩
    exact ⟨r, ⟨i, hi, ho, this.2 i hi⟩, this.1, hl⟩
  · rintro ⟨r, ⟨i, hi, ho, hci⟩, hw, hl⟩
    have := (WalkR_and_forall (R := fun a b => g.conn a b = true) (D := fun x => g.declares x c = true)).2
      ⟨hw, fun a ha => by rw [hi] at ha; cases ha; exact hci⟩
    exact ⟨r, this.1, this.2, ⟨i, hi, ho⟩, hl⟩

/-- the working graph `g` and the declarative reading `dg` describe the same capability graph -/
structure DGMatch (dg : DG N) (g : Graph N) : Prop where
  names : dg.names = g.names
  conn : ∀ a b, dg.conn a b = true ↔ (a, b) ∈ g.edges
  declares : ∀ u c, dg.declares u c = true ↔ c ∈ g.capsOf u

namespace DGMatch
variable {dg : DG N} {g : Graph N}

theorem origIn (h : DGMatch dg g) (hg : g.WF) (i : N) : dg.origIn i = true ↔ i ∈ g.inPorts := by
  unfold DG.origIn DG.preds
  rw [Bool.and_eq_true, decide_eq_true_eq, List.isEmpty_iff, List.filter_eq_nil_iff, h.names, Graph.mem_inPorts]
  refine and_congr_right fun _ => ⟨fun h' a ha => h' a (hg.edgesIn _ ha).1 ((h.conn a i).2 ha),
    fun h' a _ hc => h' a ((h.conn a i).1 hc)⟩

theorem origOut (h : DGMatch dg g) (hg : g.WF) (o : N) : dg.origOut o = true ↔ o ∈ g.outPorts := by
  unfold DG.origOut DG.succs
  rw [Bool.and_eq_true, decide_eq_true_eq, List.isEmpty_iff, List.filter_eq_nil_iff, h.names, Graph.mem_outPorts]
  refine and_congr_right fun _ => ⟨fun h' a ha => h' a (hg.edgesIn _ ha).2 ((h.conn o a).2 ha),
    fun h' a _ hc => h' a ((h.conn o a).1 hc)⟩

theorem feeds (h : DGMatch dg g) (hg : g.WF) (c u : N) : dg.Feeds c u ↔ FeedsG g c u := by
  rw [DG.feeds_iff_reach]
  exact ⟨ReachFrom.mono (fun a b hab => ⟨(h.conn a b).1 hab.1, (h.declares b c).1 hab.2⟩)
      (fun i hi => ⟨(h.origIn hg i).1 hi.1, (h.declares i c).1 hi.2⟩),
    ReachFrom.mono (fun a b hab => ⟨(h.conn a b).2 hab.1, (h.declares b c).2 hab.2⟩)
      (fun i hi => ⟨(h.origIn hg i).2 hi.1, (h.declares i c).2 hi.2⟩)⟩

theorem keptConn (h : DGMatch dg g) (hg : g.WF) (a b : N) : dg.KeptConn a b ↔ KeptG g a b := by
  unfold DG.KeptConn KeptG
  rw [h.conn]
  exact and_congr_right fun _ => exists_congr fun c => by rw [h.feeds hg, h.feeds hg]

theorem live (h : DGMatch dg g) (hg : g.WF) (u : N) : dg.Live u ↔ LiveG g u := by
  unfold DG.Live LiveG
  rw [reachTo_iff_walk]
  refine and_congr (exists_congr fun c => h.feeds hg c u) (exists_congr fun r => and_congr_right fun _ => and_congr ?_ ?_)
  · exact exists_congr fun o => and_congr_right fun _ => h.origOut hg o
  · exact ⟨WalkR.mono fun a b hab => (h.keptConn hg a b).1 hab, WalkR.mono fun a b hab => (h.keptConn hg a b).2 hab⟩

end DGMatch

theorem dgOf_names (d : Desc N) : (dgOf fold d).names = d.units.map (·.name) := by
  simp [DG.names, dgOf, List.map_map, Function.comp_def]

theorem createGraph_match {d : Desc N} {gr : Graph N × List N} (h : createGraph fold d = .ok gr) :
    DGMatch (dgOf fold d) gr.1 := by
  have hwf := createGraph_WF fold h
  have hnodes := (createGraph_nodes fold h).1
  refine ⟨by rw [dgOf_names, createGraph_names fold h], fun a b => ?_, fun u c => ?_⟩
  · rw [createGraph_edges fold h]
    simp only [DG.conn, dgOf]
    exact decide_eq_true_iff
  · simp only [DG.declares, dgOf, List.any_map, List.any_eq_true, Function.comp_def, Bool.and_eq_true, decide_eq_true_eq,
      declared, ISort.mem_dedup]
    constructor
    · rintro ⟨x, hx, rfl, hc⟩
      obtain ⟨n, hn, hno⟩ := Forall2.right hnodes x hx
      rw [hno.name, Graph.capsOf_of_mem hwf.namesNodup hn, hno.caps]
      exact hc
    · intro hc
      unfold Graph.capsOf at hc
      split at hc
      next n hn =>
        have hn' := Graph.node?_some hn
        obtain ⟨x, hx, hno⟩ := Forall2.left hnodes n hn'.1
        exact ⟨x, hx, hno.name.trans hn'.2, (hno.caps c).1 hc⟩
      · simp at hc

/-- `g2` is the graph `chk_terminals` returned for the well-formed acyclic graph `g`: the live units with what they
are fed, and the kept connections between them. -/
structure LivePart (g g2 : Graph N) : Prop where
  wf0 : g.WF
  acyclic0 : isAcyclic g = true
  wf2 : g2.WF
  induced : g2.Induced (cleanStruct g)
  live : ∀ u, u ∈ g2.names ↔ LiveG g u
  kept : ∀ a b, (a, b) ∈ g2.edges ↔ KeptG g a b ∧ LiveG g a ∧ LiveG g b
  caps : ∀ n ∈ g2.nodes, ∀ c, c ∈ n.caps ↔ FeedsG g c n.name

theorem livePart_of_terminals {g g2 : Graph N} (hg : g.WF) (hac : isAcyclic g = true)
    (hterm : chkTerminals g.inPorts g.outPorts ((rmEmpty (cleanStruct g)).nodes.length + 1)
      (rmEmpty (cleanStruct g)) = .ok g2) : LivePart g g2 := by
  have hwfc : (cleanStruct g).WF := hg.cleanStruct
  have hI : g2.Induced (cleanStruct g) := chkTerminals_ok_induced ((Graph.Induced.refl hwfc).removeNodes _) hterm
  have hl := chkTerminals_live hg hac hterm
  refine ⟨hg, hac, hI.WF hwfc, hI, hl.1, hl.2, fun n hn c => ?_⟩
  rw [← Graph.capsOf_of_mem hwfc.namesNodup (hI.nodes.subset hn)]
  have hn0 : n.name ∈ g.names := names_cleanStruct g ▸ hI.names_sublist.subset (Graph.mem_names.2 ⟨n, hn, rfl⟩)
  exact (cleanStruct_spec hg hac).2.1 n.name hn0 c

theorem LivePart.mem_capsOf {g g2 : Graph N} (L : LivePart g g2) {u : N} (hu : u ∈ g2.names) (c : N) :
    c ∈ g2.capsOf u ↔ FeedsG g c u := by
  obtain ⟨n, hn, rfl⟩ := Graph.mem_names.1 hu
  rw [Graph.capsOf_of_mem L.wf2.namesNodup hn]
  exact L.caps n hn c

theorem LivePart.edges_sub {g g2 : Graph N} (L : LivePart g g2) {e : N × N} (he : e ∈ g2.edges) : e ∈ g.edges :=
  ((L.kept e.1 e.2).1 he).1.1

theorem LivePart.acyclic2 {g g2 : Graph N} (L : LivePart g g2) : isAcyclic g2 = true :=
  isAcyclic_sub L.wf0.edgesIn L.wf2.namesNodup L.acyclic0 fun _ he => L.edges_sub he

/-- `g0` is the graph created from `d` (`reg` the capability registry) and `g2` its live part; every node of `g2`
stems from a unit of `d`. -/
structure Pruned (d : Desc N) (g0 g2 : Graph N) (reg : List N) : Prop extends LivePart g0 g2 where
  created : createGraph fold d = .ok (g0, reg)
  dgMatch : DGMatch (dgOf fold d) g0
  registry : ∀ c, stdCap fold reg c = stdCapName fold d c
  capsNodup : ∀ n ∈ g2.nodes, n.caps.Nodup
  origin : ∀ n ∈ g2.nodes, ∃ x ∈ d.units, SameUnit x n ∧ 0 < x.width

theorem pruned_of_terminals {d : Desc N} {g0 g2 : Graph N} {reg : List N} (hcg : createGraph fold d = .ok (g0, reg))
    (hac : isAcyclic g0 = true)
    (hterm : chkTerminals g0.inPorts g0.outPorts ((rmEmpty (cleanStruct g0)).nodes.length + 1)
      (rmEmpty (cleanStruct g0)) = .ok g2) : Pruned fold d g0 g2 reg := by
  have hwf0 : g0.WF := createGraph_WF fold hcg
  have hnodes := createGraph_nodes fold hcg
  have L := livePart_of_terminals hwf0 hac hterm
  -- `clean_struct` changes capabilities only: a node of `g2` stems from a node of `g0`, hence from a unit of `d`
  have horig : ∀ n ∈ g2.nodes, ∃ n0 ∈ g0.nodes, n0.strip = n.strip ∧ ∃ x ∈ d.units, NodeOf fold (d.units.flatMap (·.caps)) n0 x := by
    intro n hn
    have hs : n.strip ∈ g0.nodes.map GNode.strip := by
      rw [← strip_cleanStruct]
      exact List.mem_map_of_mem (L.induced.nodes.subset hn)
    obtain ⟨n0, hn0, h⟩ := List.mem_map.1 hs
    exact ⟨n0, hn0, h, Forall2.left hnodes.1 n0 hn0⟩
  refine ⟨L, hcg, createGraph_match fold hcg, hnodes.2.1, ?_, ?_⟩
  · intro n hn
    obtain ⟨n0, hn0, hstrip, x, -, hx⟩ := horig n hn
    have hname : n0.name = n.name := congrArg Prod.fst hstrip
    rw [← Graph.capsOf_of_mem L.wf0.cleanStruct.namesNodup (L.induced.nodes.subset hn)]
    refine ((cleanStruct_spec hwf0 hac).2.2.2 n.name).nodup ?_
    rw [← hname, Graph.capsOf_of_mem hwf0.namesNodup hn0]
    exact hx.capsNodup
  · intro n hn
    obtain ⟨n0, hn0, hstrip, x, hx, hno⟩ := horig n hn
    simp only [GNode.strip, Prod.mk.injEq] at hstrip
    obtain ⟨h1, h2, h3, h4, h5⟩ := hstrip
    exact ⟨x, hx, ⟨hno.name.trans h1, hno.width.trans h2, hno.rd.trans h3, hno.wr.trans h4, hno.acl.trans h5⟩,
      hnodes.2.2 x hx⟩

theorem load_pruned [LT N] [DecidableRel (α := N) (· < ·)] {d : Desc N} {p : Proc N} (h : load fold d = .ok p) :
    ∃ g0 g2 reg, Pruned fold d g0 g2 reg ∧ prepare g0 = .ok g2 ∧ makeProcessor fold reg g2 = some p := by
  obtain ⟨g0, reg, g2, hc, hp, hm⟩ := load_ok fold h
  exact ⟨g0, g2, reg, pruned_of_terminals fold hc (prepare_ok hp).1 (prepare_ok hp).2.1, hp, hm⟩

end Loader
end ProcSim
