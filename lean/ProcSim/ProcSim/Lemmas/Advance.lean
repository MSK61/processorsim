import ProcSim.Lemmas.RoutesCore
/-!
# One fill phase, destination by destination, and the relation `C07Rel` (eager advance, oldest first)

Besides `Props/C07.lean` two other arguments start here: the issue analysis of C06 (`Lemmas/Issue.lean`, from
`moveFlights_flag`) and the termination argument of C08 (`Lemmas/Termination.lean`, where `C07Rel.of_labelAll` shows
that in a reproduced record every structurally stalled instruction is blocked by full successors).

One fill phase is analysed destination by destination, at a split `p.dests = pre ++ d :: post` of the stored order.
The order is sink-first (`DestsOK`, from `Routes.dests_order`): when `d` is filled its predecessors have not been
refilled and hold what is left of their previous content (`mem_stBefore_of_stays`), and once filled `d` is final
(`moveFlights_get_dest`).
`fillTaken_stop` and `fillTaken_oldest` say why a candidate was not taken; a set memory flag has a witness among the
taken candidates (`flag_witness`, `moveFlights_flag`). The result is the relation `C07Rel` between the record a cycle
starts from and the relabelled record (`C07Rel.of_labelAll`), lifted to diagrams by `Diagram_C07Rel`.
-/
namespace ProcSim
namespace Adv

attribute [local implicit_reducible] AMap

variable {N : Type} [DecidableEq N]

theorem fillTaken_mem_set (prog : List (Instr N)) (d : UnitM N) (cs : List (N × Nat)) (len : Nat) :
    ∀ b ∈ fillTaken prog d cs len true, capIn prog b.2 d.acl = false := by
  intro b hb
  have h := fillTaken_mem prog d cs len true
  have h1 : ((fillTaken prog d cs len true).filter (fun c => capIn prog c.2 d.acl)).length = 0 := by
    simp only [Bool.true_or, Bool.toNat_true] at h; omega
  cases hc : capIn prog b.2 d.acl with
  | false => rfl
  | true =>
    have : b ∈ (fillTaken prog d cs len true).filter (fun c => capIn prog c.2 d.acl) :=
      List.mem_filter.2 ⟨hb, hc⟩
    rw [List.length_eq_zero_iff.1 h1] at this
    cases this

/-- Oldest first for one destination: candidates are scanned in increasing program index; if a younger candidate
`b` was taken, every older candidate `a` was taken too, unless `a` needs the memory port, `b` does not, and the port
is busy at the end of the loop. -/
theorem fillTaken_oldest (prog : List (Instr N)) (d : UnitM N) (cs : List (N × Nat)) (len : Nat) (mem : Bool)
    (hs : cs.Pairwise (fun a b => a.2 ≤ b.2)) {a b : N × Nat} (ha : a ∈ cs)
    (hb : b ∈ fillTaken prog d cs len mem) (hlt : a.2 < b.2) :
    a ∈ fillTaken prog d cs len mem ∨
      (capIn prog a.2 d.acl = true ∧ capIn prog b.2 d.acl = false ∧
        (mem || (fillTaken prog d cs len mem).any (fun c => capIn prog c.2 d.acl)) = true) := by
  induction cs generalizing len mem with
  | nil => cases ha
  | cons c cs ih =>
    rw [List.pairwise_cons] at hs
    unfold fillTaken at hb ⊢
    by_cases h1 : len = d.width
    · rw [if_pos h1] at hb; cases hb
    · rw [if_neg h1] at hb ⊢
      by_cases h2 : (mem && capIn prog c.2 d.acl) = true
      · rw [if_pos h2] at hb ⊢
        rcases List.mem_cons.1 ha with e | e
        · subst e
          simp only [Bool.and_eq_true] at h2
          right
          obtain ⟨hm, hc⟩ := h2
          subst hm
          exact ⟨hc, fillTaken_mem_set prog d cs len b hb, by simp⟩
        · exact ih len mem hs.2 e hb
      · rw [if_neg h2] at hb ⊢
        rcases List.mem_cons.1 ha with e | e
        · subst e; exact Or.inl List.mem_cons_self
        · rcases List.mem_cons.1 hb with e' | e'
          · subst e'
            have := hs.1 a e
            omega
          · rcases ih (len + 1) (mem || capIn prog c.2 d.acl) hs.2 e e' with h | ⟨h3, h4, h5⟩
            · exact Or.inl (List.mem_cons_of_mem _ h)
            · refine Or.inr ⟨h3, h4, ?_⟩
              simp only [List.any_cons, Bool.or_eq_true] at h5 ⊢
              rcases h5 with (a1 | a1) | a1
              · exact Or.inl a1
              · exact Or.inr (Or.inl a1)
              · exact Or.inr (Or.inr a1)

/-- `a` may be processed before `b`: it is neither the same unit as `b` nor one of its predecessors -/
def SinkFirst (a b : FuncU N) : Prop := a.model.name ≠ b.model.name ∧ a.model.name ∉ b.preds

/-- sink-first processing order without self loops -/
structure DestsOK (ds : List (FuncU N)) : Prop where
  pw : ds.Pairwise SinkFirst
  noself : ∀ d ∈ ds, d.model.name ∉ d.preds

omit [DecidableEq N] in
theorem DestsOK.tail {d : FuncU N} {ds : List (FuncU N)} (h : DestsOK (d :: ds)) : DestsOK ds :=
  ⟨(List.pairwise_cons.1 h.pw).2, fun d' hd' => h.noself d' (List.mem_cons_of_mem _ hd')⟩

omit [DecidableEq N] in
theorem DestsOK.left {a b : List (FuncU N)} (h : DestsOK (a ++ b)) : DestsOK a :=
  ⟨(List.pairwise_append.1 h.pw).1, fun d hd => h.noself d (List.mem_append_left _ hd)⟩

omit [DecidableEq N] in
theorem DestsOK.right {a b : List (FuncU N)} (h : DestsOK (a ++ b)) : DestsOK b :=
  ⟨(List.pairwise_append.1 h.pw).2.1, fun d hd => h.noself d (List.mem_append_right _ hd)⟩

omit [DecidableEq N] in
theorem DestsOK.cross {a b : List (FuncU N)} (h : DestsOK (a ++ b)) : ∀ x ∈ a, ∀ y ∈ b, SinkFirst x y :=
  (List.pairwise_append.1 h.pw).2.2

theorem fillDests_get_sublist (prog : List (Instr N)) (ds : List (FuncU N)) (u : Util N) (mem : Bool) {n : N}
    (h : ∀ d ∈ ds, d.model.name ≠ n) : ((fillDests prog ds u mem).1.get n).Sublist (u.get n) := by
  refine fillDests_induction prog (fun u' _ => (u'.get n).Sublist (u.get n)) ds ?_ u mem (List.Sublist.refl _)
  intro d hd u' mem' hu'
  rw [fillUnit_get_of_ne prog d u' mem' (h d hd)]
  exact List.filter_sublist.trans hu'

theorem fillDests_stay_or_moved (prog : List (Instr N)) (ds : List (FuncU N)) (hok : DestsOK ds) (u : Util N)
    (mem : Bool) {n : N} (h : ∀ d ∈ ds, d.model.name ≠ n) {x : HI} (hx : x ∈ u.get n) :
    x ∈ (fillDests prog ds u mem).1.get n ∨
      ∃ d ∈ ds, n ∈ d.preds ∧ x.idx ∈ ((fillDests prog ds u mem).1.get d.model.name).map (·.idx) := by
  induction ds generalizing u mem with
  | nil => exact Or.inl hx
  | cons d ds ih =>
    rw [fillDests_cons]
    have hdn : d.model.name ≠ n := h d List.mem_cons_self
    by_cases hk : x ∈ (fillUnit prog d u mem).1.get n
    · rcases ih hok.tail _ _ (fun d' hd' => h d' (List.mem_cons_of_mem _ hd')) hk with h1 | ⟨d', hd', h1, h2⟩
      · exact Or.inl h1
      · exact Or.inr ⟨d', List.mem_cons_of_mem _ hd', h1, h2⟩
    · right
      refine ⟨d, List.mem_cons_self, ?_⟩
      rw [fillUnit_get_of_ne prog d u mem hdn, List.mem_filter] at hk
      have hk' : (unitTaken prog d u mem).any (fun m => m.1 == n && m.2 == x.idx) = true := by
        cases hc : (unitTaken prog d u mem).any (fun m => m.1 == n && m.2 == x.idx) with
        | true => rfl
        | false => exact absurd ⟨hx, by simp [hc]⟩ hk
      obtain ⟨c, hc, hcn⟩ := List.any_eq_true.1 hk'
      simp only [Bool.and_eq_true, beq_iff_eq] at hcn
      have hpred : n ∈ d.preds := hcn.1 ▸ (mem_unitTaken hc).1
      refine ⟨hpred, ?_⟩
      have hfin : (fillDests prog ds (fillUnit prog d u mem).1 (fillUnit prog d u mem).2).1.get d.model.name =
          (fillUnit prog d u mem).1.get d.model.name := by
        apply fillDests_get_of_not_involved
        intro d' hd'
        have := (List.pairwise_cons.1 hok.pw).1 d' hd'
        exact ⟨fun e => this.1 e.symm, this.2⟩
      rw [hfin, fillUnit_get_self prog d u mem (hok.noself d List.mem_cons_self), List.map_append, List.mem_append]
      right
      rw [List.map_map]
      exact List.mem_map.2 ⟨c, hc, hcn.2⟩

theorem fillDests_flag (prog : List (Instr N)) (ds : List (FuncU N)) (u : Util N) (mem : Bool)
    (h : (fillDests prog ds u mem).2 = true) :
    mem = true ∨ ∃ pre d post, ds = pre ++ d :: post ∧
      ∃ c ∈ unitTaken prog d (fillDests prog pre u mem).1 (fillDests prog pre u mem).2,
        capIn prog c.2 d.model.acl = true := by
  induction ds generalizing u mem with
  | nil => exact Or.inl h
  | cons d ds ih =>
    rw [fillDests_cons] at h
    rcases ih _ _ h with h1 | ⟨pre, d', post, e, c, hc, hcap⟩
    · rw [fillUnit_snd, Bool.or_eq_true] at h1
      rcases h1 with h1 | h1
      · exact Or.inl h1
      · obtain ⟨c, hc, hcap⟩ := List.any_eq_true.1 h1
        exact Or.inr ⟨[], d, ds, rfl, c, hc, hcap⟩
    · exact Or.inr ⟨d :: pre, d', post, by rw [e]; rfl, c, by simpa only [fillDests_cons] using hc, hcap⟩

open Spec

omit [DecidableEq N] in
theorem dest_not_inBoundary {p : Proc N} (hn : (p.allUnits.map (·.name)).Nodup) {d : FuncU N} (hd : d ∈ p.dests) :
    d.model.name ∉ p.inBoundary.map (·.name) := by
  have e : p.allUnits.map (·.name) = (p.inPorts ++ p.inOut).map (·.name) ++ p.dests.map (·.model.name) := by
    simp [Proc.allUnits, Proc.dests, List.map_append, List.map_map, Function.comp_def]
  rw [e] at hn
  intro hmem
  have h1 : d.model.name ∈ (p.inPorts ++ p.inOut).map (·.name) := by
    simp only [Proc.inBoundary, List.map_append, List.mem_append] at hmem ⊢
    exact hmem.symm
  have h2 : d.model.name ∈ p.dests.map (·.model.name) := List.mem_map.2 ⟨d, hd, rfl⟩
  exact (List.nodup_append.1 hn).2.2 _ h1 _ h2 rfl

theorem structOK_destsOK {p : Proc N} (h : structOK p = true) : DestsOK p.dests := by
  have hn := structOK_nodup_names h
  refine ⟨pairwise_of_forall_split fun pre d post hs d' hd' =>
    ⟨fun e => ?_, Routes.dests_order hn (structOK_orderOK h) hs d' hd'⟩, structOK_self_not_pred h⟩
  have hnd := Routes.dests_names_nodup hn
  rw [hs, List.map_append, List.map_cons, List.nodup_append] at hnd
  exact hnd.2.2 _ (List.mem_map.2 ⟨d', hd', rfl⟩) _ List.mem_cons_self e

/-- instruction `i` is hosted by unit `n` in record `r` -/
abbrev Hosts (r : Util N) (n : N) (i : Nat) : Prop := i ∈ (r.get n).map (·.idx)

/-- the record after the moves and the issues of a cycle, as far as C07 needs it: the issue loop appends fresh
indices to input-boundary ports only, and no index is hosted twice -/
structure AfterMoves (p : Proc N) (prog : List (Instr N)) (old : Util N) (e : Nat) (F : Util N) : Prop where
  app : ∀ n, ∃ l', F.get n = (moveFlights p prog old).1.get n ++ l' ∧ ∀ x ∈ l', e ≤ x.idx
  same : ∀ n, n ∉ p.inBoundary.map (·.name) → F.get n = (moveFlights p prog old).1.get n
  nd : RowND F

section cycle
variable {p : Proc N} {prog : List (Instr N)} {old : Util N} {e : Nat} {F : Util N}

/-- state of the move phase before the destination following `pre` is processed -/
def stBefore (p : Proc N) (prog : List (Instr N)) (old : Util N) (pre : List (FuncU N)) : Util N × Bool :=
  fillDests prog pre (flushOutputs p.outBoundary old) false

theorem moveFlights_split {pre post : List (FuncU N)} {d : FuncU N} (hs : p.dests = pre ++ d :: post) :
    moveFlights p prog old =
      fillDests prog post (fillUnit prog d (stBefore p prog old pre).1 (stBefore p prog old pre).2).1
        (fillUnit prog d (stBefore p prog old pre).1 (stBefore p prog old pre).2).2 := by
  unfold moveFlights stBefore
  rw [hs, fillDests_append, fillDests_cons]

theorem moveFlights_get_dest (hc : CycleHyp p e old) {pre post : List (FuncU N)} {d : FuncU N}
    (hs : p.dests = pre ++ d :: post) :
    (moveFlights p prog old).1.get d.model.name =
      (stBefore p prog old pre).1.get d.model.name ++
        (unitTaken prog d (stBefore p prog old pre).1 (stBefore p prog old pre).2).map (fun c => (⟨c.2, .U⟩ : HI)) := by
  have hok := structOK_destsOK hc.wf
  rw [hs] at hok
  rw [moveFlights_split hs, fillDests_get_of_not_involved, fillUnit_get_self]
  · exact hok.noself d (by simp)
  · intro d' hd'
    have := (List.pairwise_cons.1 hok.right.pw).1 d' hd'
    exact ⟨fun e => this.1 e.symm, this.2⟩

theorem AfterMoves.get_dest (hF : AfterMoves p prog old e F) (hc : CycleHyp p e old) {pre post : List (FuncU N)}
    {d : FuncU N} (hs : p.dests = pre ++ d :: post) :
    F.get d.model.name =
      (stBefore p prog old pre).1.get d.model.name ++
        (unitTaken prog d (stBefore p prog old pre).1 (stBefore p prog old pre).2).map (fun c => (⟨c.2, .U⟩ : HI)) := by
  rw [hF.same _ (dest_not_inBoundary (structOK_nodup_names hc.wf) (by rw [hs]; simp)), moveFlights_get_dest hc hs]

theorem stBefore_get_sublist (pre : List (FuncU N)) {n : N} (h : ∀ d ∈ pre, d.model.name ≠ n) :
    ((stBefore p prog old pre).1.get n).Sublist (old.get n) :=
  (fillDests_get_sublist prog pre _ false h).trans (flushOutputs_get_sublist _ _ _)

theorem pred_not_in_pre (hc : CycleHyp p e old) {pre post : List (FuncU N)} {d : FuncU N}
    (hs : p.dests = pre ++ d :: post) {n : N} (hn : n ∈ d.preds) : ∀ d' ∈ pre, d'.model.name ≠ n := by
  have hok := structOK_destsOK hc.wf
  rw [hs] at hok
  intro d' hd' e1
  exact (hok.cross d' hd' d (by simp)).2 (e1 ▸ hn)

theorem taken_facts (hF : AfterMoves p prog old e F) (hc : CycleHyp p e old) {pre post : List (FuncU N)}
    {d : FuncU N} (hs : p.dests = pre ++ d :: post) {c : N × Nat}
    (hcm : c ∈ unitTaken prog d (stBefore p prog old pre).1 (stBefore p prog old pre).2) :
    c.1 ∈ d.preds ∧ (∃ x ∈ old.get c.1, x.idx = c.2 ∧ validCand prog d.model x = true) ∧
      Hosts F d.model.name c.2 ∧ ¬ Hosts old d.model.name c.2 := by
  have hd : d ∈ p.dests := by rw [hs]; simp
  obtain ⟨h1, x, hx, hv, hxi⟩ := mem_unitTaken hcm
  have hxo : x ∈ old.get c.1 := (stBefore_get_sublist pre (pred_not_in_pre hc hs h1)).subset hx
  refine ⟨h1, ⟨x, hxo, hxi, hv⟩, ?_, ?_⟩
  · show c.2 ∈ (F.get d.model.name).map (·.idx)
    rw [hF.get_dest hc hs, List.map_append, List.mem_append, List.map_map]
    exact Or.inr (List.mem_map.2 ⟨c, hcm, rfl⟩)
  · intro hold
    have : c.1 = d.model.name :=
      hc.nd.unique_host c.1 d.model.name c.2 (List.mem_map.2 ⟨x, hxo, hxi⟩) hold
    exact structOK_self_not_pred hc.wf _ hd (this ▸ h1)

theorem mem_stBefore_of_stays (hF : AfterMoves p prog old e F) (hc : CycleHyp p e old) {pre post : List (FuncU N)}
    {d : FuncU N} (hs : p.dests = pre ++ d :: post) {u : N} (hu : u ∈ d.preds) (hout : u ∉ p.outBoundary)
    {h : HI} (hh : h ∈ old.get u) (hst : Hosts F u h.idx) : h ∈ (stBefore p prog old pre).1.get u := by
  have hok := structOK_destsOK hc.wf
  rw [hs] at hok
  have h0 : h ∈ (flushOutputs p.outBoundary old).get u := by rw [flushOutputs_get, if_neg hout]; exact hh
  rcases fillDests_stay_or_moved prog pre hok.left _ false (pred_not_in_pre hc hs hu) h0 with h1 | ⟨d', hd', h1, h2⟩
  · exact h1
  · exfalso
    have hd'mem : d' ∈ p.dests := by rw [hs]; exact List.mem_append_left _ hd'
    -- `d'` is final from here on
    obtain ⟨s1, s2, e1⟩ := List.append_of_mem hd'
    have hs' : p.dests = s1 ++ d' :: (s2 ++ d :: post) := by rw [hs, e1]; simp
    have hfin : (moveFlights p prog old).1.get d'.model.name = (stBefore p prog old pre).1.get d'.model.name := by
      rw [moveFlights_split hs, ← fillDests_cons]
      apply fillDests_get_of_not_involved
      intro d'' hd''
      have := hok.cross d' hd' d'' hd''
      exact ⟨fun e => this.1 e.symm, this.2⟩
    have hF' : Hosts F d'.model.name h.idx := by
      show h.idx ∈ (F.get d'.model.name).map (·.idx)
      rw [hF.same _ (dest_not_inBoundary (structOK_nodup_names hc.wf) hd'mem), hfin]
      exact h2
    have : u = d'.model.name := hF.nd.unique_host u d'.model.name h.idx hst hF'
    exact structOK_self_not_pred hc.wf _ hd'mem (this ▸ h1)

/-- somebody other than `i` entered a unit whose ACL names its capability (Prop form of `Ctx.memTakenByOther`) -/
def MemTakenByOther (p : Proc N) (prog : List (Instr N)) (old new : Util N) (i : Nat) : Prop :=
  ∃ w ∈ p.allUnits, ∃ j, Hosts new w.name j ∧ j ≠ i ∧ ¬ Hosts old w.name j ∧ Spec.needsMem prog j w = true

/-- if the flag is set after `d` has been filled, an instruction needing the port
entered a destination processed so far; it is different from anything still sitting in a predecessor of `d` -/
theorem flag_witness (hF : AfterMoves p prog old e F) (hc : CycleHyp p e old) {pre post : List (FuncU N)}
    {d : FuncU N} (hs : p.dests = pre ++ d :: post)
    (hflag : (fillUnit prog d (stBefore p prog old pre).1 (stBefore p prog old pre).2).2 = true)
    {pn : N} (hpn : pn ∈ d.preds) {i : Nat} (hi : Hosts F pn i) : MemTakenByOther p prog old F i := by
  have hok := structOK_destsOK hc.wf
  rw [hs] at hok
  have hfl : (fillDests prog (pre ++ [d]) (flushOutputs p.outBoundary old) false).2 = true := by
    rw [fillDests_append]; exact hflag
  rcases fillDests_flag prog _ _ _ hfl with h | ⟨pre', d'', post', e1, c, hcm, hcap⟩
  · cases h
  · have hs' : p.dests = pre' ++ d'' :: (post' ++ post) := by
      rw [hs, show pre ++ d :: post = (pre ++ [d]) ++ post by simp, e1]; simp
    obtain ⟨_, _, hin, hnold⟩ := taken_facts hF hc hs' hcm
    have hd''mem : d'' ∈ p.dests := by rw [hs']; simp
    refine ⟨d''.model, model_mem_allUnits_of_mem_dests hd''mem, c.2, hin, ?_, hnold, hcap⟩
    intro e2
    have : pn = d''.model.name := hF.nd.unique_host pn d''.model.name i hi (e2 ▸ hin)
    have hmem : d'' ∈ pre ++ [d] := by rw [e1]; simp
    rcases List.mem_append.1 hmem with h1 | h1
    · exact (hok.cross d'' h1 d (by simp)).2 (this ▸ hpn)
    · simp only [List.mem_singleton] at h1
      subst h1
      exact structOK_self_not_pred hc.wf _ hd''mem (this ▸ hpn)

theorem afterMoves_moveFlights (hc : CycleHyp p e old) : AfterMoves p prog old e (moveFlights p prog old).1 := by
  refine ⟨fun n => ⟨[], (List.append_nil _).symm, fun _ h => absurd h List.not_mem_nil⟩, fun _ _ => rfl, ?_⟩
  exact (moveFlights_induction p prog (fun u _ => RowBase p e u ∧ RowND u) old
    ⟨hc.base.after_flush _, hc.nd.after_flush _⟩
    (fun d hd u mem hu => ⟨hu.1.after_fillUnit (structOK_nodup_names hc.wf) prog hd mem,
      hu.2.after_fillUnit prog (structOK_preds_nodup hc.wf d hd) (structOK_self_not_pred hc.wf d hd) mem⟩)).2

theorem moveFlights_flag (hc : CycleHyp p e old) (h : (moveFlights p prog old).2 = true) :
    ∃ d ∈ p.dests, ∃ k, Hosts (moveFlights p prog old).1 d.model.name k ∧ ¬ Hosts old d.model.name k ∧
      capIn prog k d.model.acl = true := by
  rcases fillDests_flag prog p.dests _ false h with h0 | ⟨pre, d, post, hs, c, hcm, hcap⟩
  · cases h0
  · obtain ⟨_, _, hin, hnold⟩ := taken_facts (afterMoves_moveFlights hc) hc hs hcm
    exact ⟨d, by rw [hs]; simp, c.2, hin, hnold, hcap⟩

theorem enter_cases (hF : AfterMoves p prog old e F) (hc : CycleHyp p e old) {n : N} {i : Nat} (hi : Hosts F n i) :
    Hosts (flushOutputs p.outBoundary old) n i ∨ (e ≤ i ∧ n ∈ p.inBoundary.map (·.name)) ∨
      ∃ pre d post, p.dests = pre ++ d :: post ∧ d.model.name = n ∧
        ∃ c ∈ unitTaken prog d (stBefore p prog old pre).1 (stBefore p prog old pre).2, c.2 = i := by
  by_cases hd : ∃ d ∈ p.dests, d.model.name = n
  · obtain ⟨d, hd, rfl⟩ := hd
    obtain ⟨pre, post, hs⟩ := List.append_of_mem hd
    have hi' : i ∈ (F.get d.model.name).map (·.idx) := hi
    rw [hF.get_dest hc hs, List.map_append, List.mem_append, List.map_map] at hi'
    rcases hi' with h1 | h1
    · left
      have hok := structOK_destsOK hc.wf
      rw [hs] at hok
      exact ((fillDests_get_sublist prog pre _ false
        fun d' hd' => (hok.cross d' hd' d List.mem_cons_self).1).map _).subset h1
    · right; right
      obtain ⟨c, hcm, e1⟩ := List.mem_map.1 h1
      exact ⟨pre, d, post, hs, rfl, c, hcm, e1⟩
  · have hnd : ∀ d ∈ p.dests, d.model.name ≠ n := fun d hd' e1 => hd ⟨d, hd', e1⟩
    have hsub : ((moveFlights p prog old).1.get n).Sublist ((flushOutputs p.outBoundary old).get n) :=
      fillDests_get_sublist prog p.dests _ false hnd
    by_cases hin : n ∈ p.inBoundary.map (·.name)
    · obtain ⟨l', e1, hl'⟩ := hF.app n
      have hi' : i ∈ (F.get n).map (·.idx) := hi
      rw [e1, List.map_append, List.mem_append] at hi'
      rcases hi' with h1 | h1
      · exact Or.inl ((hsub.map _).subset h1)
      · obtain ⟨x, hx, rfl⟩ := List.mem_map.1 h1
        exact Or.inr (Or.inl ⟨hl' x hx, hin⟩)
    · left
      have hi' : i ∈ (F.get n).map (·.idx) := hi
      rw [hF.same n hin] at hi'
      exact (hsub.map _).subset hi'

theorem predsOf_of_mem {p : Proc N} (hn : (p.allUnits.map (·.name)).Nodup) {d : FuncU N} (hd : d ∈ p.dests) :
    Spec.predsOf p d.model.name = d.preds :=
  Routes.predsOf_of_mem hn hd

theorem ready_is_candidate (hF : AfterMoves p prog old e F) (hc : CycleHyp p e old) {pre post : List (FuncU N)}
    {d : FuncU N} (hs : p.dests = pre ++ d :: post) {u : N} (hu : u ∈ d.preds) (hout : u ∉ p.outBoundary)
    {h : HI} (hh : h ∈ old.get u) (hnd : h.st ≠ .D) (hsup : Spec.supports prog h.idx d.model = true)
    (hst : Hosts F u h.idx) : (u, h.idx) ∈ candidates prog d (stBefore p prog old pre).1 := by
  refine mem_candidates.2 ⟨hu, h, mem_stBefore_of_stays hF hc hs hu hout hh hst, ?_, rfl⟩
  unfold validCand
  rw [Bool.and_eq_true]
  exact ⟨by simpa using hnd, hsup⟩

theorem not_taken_of_stays (hF : AfterMoves p prog old e F) (hc : CycleHyp p e old) {pre post : List (FuncU N)}
    {d : FuncU N} (hs : p.dests = pre ++ d :: post) {u : N} (hu : u ∈ d.preds) {i : Nat} (hst : Hosts F u i) :
    (u, i) ∉ unitTaken prog d (stBefore p prog old pre).1 (stBefore p prog old pre).2 := by
  intro hcm
  obtain ⟨_, _, hin, _⟩ := taken_facts hF hc hs hcm
  have : u = d.model.name := hF.nd.unique_host u d.model.name i hst hin
  exact structOK_self_not_pred hc.wf _ (by rw [hs]; simp) (this ▸ hu)

/-- The three statements of C07 between a record and the next one. -/
structure C07Rel (p : Proc N) (prog : List (Instr N)) (old new : Util N) : Prop where
  /-- no bubble -/
  noBubble : ∀ u ∈ p.allUnits, u.name ∉ p.outBoundary → ∀ h ∈ old.get u.name, h.st ≠ .D → Hosts new u.name h.idx →
    ∀ v ∈ Spec.succsOf p u.name, Spec.supports prog h.idx v = true →
      v.width ≤ (new.get v.name).length ∨
        (Spec.needsMem prog h.idx v = true ∧ MemTakenByOther p prog old new h.idx)
  /-- outputs flush -/
  flush : ∀ u ∈ p.allUnits, u.name ∈ p.outBoundary → ∀ h ∈ old.get u.name, h.st ≠ .D → ¬ Hosts new u.name h.idx
  /-- oldest first -/
  oldest : ∀ d ∈ p.allUnits, ∀ y, Hosts new d.name y → ¬ Hosts old d.name y →
    ∀ pn ∈ Spec.predsOf p d.name, ∀ x ∈ old.get pn, x.idx < y → x.st ≠ .D → Spec.supports prog x.idx d = true →
      Hosts new pn x.idx →
      Spec.needsMem prog x.idx d = true ∧ Spec.needsMem prog y d = false ∧ MemTakenByOther p prog old new x.idx

theorem C07Rel.of_cycle (hF : AfterMoves p prog old e F) (hc : CycleHyp p e old) : C07Rel p prog old F := by
  refine ⟨?_, ?_, ?_⟩
  -- no bubble: the instruction was a candidate of the successor and was not taken
  · intro u _ hout h hh hnd hst v hv hsup
    obtain ⟨d, hd, hu, rfl⟩ := Routes.mem_succsOf.1 hv
    obtain ⟨pre, post, hs⟩ := List.append_of_mem hd
    have hcand := ready_is_candidate hF hc hs hu hout hh hnd hsup hst
    have hnt := not_taken_of_stays (prog := prog) hF hc hs hu hst
    rcases fillTaken_stop prog d.model (candidates prog d (stBefore p prog old pre).1)
      ((stBefore p prog old pre).1.get d.model.name).length (stBefore p prog old pre).2 with hfull | hall
    · left
      rw [hF.get_dest hc hs, List.length_append, List.length_map]
      unfold unitTaken
      omega
    · right
      rcases hall _ hcand with h1 | ⟨h1, h2⟩
      · exact absurd h1 hnt
      · refine ⟨h1, flag_witness hF hc hs ?_ hu hst⟩
        rw [fillUnit_snd]; exact h2
  -- outputs flush: the flush removed it, and nothing brings it back
  · intro u _ hout h hh hnd hst
    rcases enter_cases hF hc hst with h1 | ⟨h1, _⟩ | ⟨pre, d, post, hs, hdn, c, hcm, hci⟩
    · have h1' : h.idx ∈ ((flushOutputs p.outBoundary old).get u.name).map (·.idx) := h1
      rw [flushOutputs_get, if_pos hout] at h1'
      obtain ⟨x, hx, hxi⟩ := List.mem_map.1 h1'
      obtain ⟨hx1, hx2⟩ := List.mem_filter.1 hx
      have : x = h := eq_of_map_eq_of_nodup (fun y : HI => y.idx) (hc.nd.nodup_unit u.name) hx1 hh hxi
      subst this
      exact hnd (by simpa using hx2)
    · have := hc.base.idx_lt u.name h hh
      omega
    · obtain ⟨_, _, _, hnold⟩ := taken_facts hF hc hs hcm
      apply hnold
      rw [hdn, hci]
      exact List.mem_map.2 ⟨h, hh, rfl⟩
  -- oldest first: `y` was taken by the destination while the older candidate `x` was not
  · intro dU hdU y hy hyold pn hpn x hx hlt hnd hsup hst
    have hn := structOK_nodup_names hc.wf
    obtain ⟨d, hd, hdn, hpn'⟩ := Routes.mem_predsOf hpn
    have hdm : d.model = dU := unit_eq_of_name_eq hn (model_mem_allUnits_of_mem_dests hd) hdU hdn
    subst hdm
    have hout : pn ∉ p.outBoundary := (orderOK_pred (structOK_orderOK hc.wf) hd hpn').2.1
    rcases enter_cases hF hc hy with h1 | ⟨_, h1⟩ | ⟨pre, d', post, hs, hdn', c, hcm, hci⟩
    · exact absurd (((flushOutputs_get_sublist _ _ _).map _).subset h1) hyold
    · exact absurd h1 (dest_not_inBoundary hn hd)
    · have hd' : d' ∈ p.dests := by rw [hs]; simp
      have : d' = d := eq_of_map_eq_of_nodup (fun x : FuncU N => x.model.name) (Routes.dests_names_nodup hn) hd' hd hdn'
      subst this
      have hcand := ready_is_candidate hF hc hs hpn' hout hx hnd hsup hst
      have hnt := not_taken_of_stays (prog := prog) hF hc hs hpn' hst
      subst hci
      rcases fillTaken_oldest prog d'.model _ _ _ (candidates_sorted prog d' _) hcand hcm hlt with h1 | ⟨h1, h2, h3⟩
      · exact absurd h1 hnt
      · refine ⟨h1, h2, flag_witness hF hc hs ?_ hpn' hst⟩
        rw [fillUnit_snd]; exact h3

end cycle

theorem MemTakenByOther.congr {p : Proc N} {prog : List (Instr N)} {old new new' : Util N}
    (hs : ∀ n, (new'.get n).map (·.idx) = (new.get n).map (·.idx)) {i : Nat}
    (h : MemTakenByOther p prog old new i) : MemTakenByOther p prog old new' i := by
  obtain ⟨w, hw, j, h1, h2, h3, h4⟩ := h
  exact ⟨w, hw, j, by show j ∈ _; rw [hs]; exact h1, h2, h3, h4⟩

theorem C07Rel.congr {p : Proc N} {prog : List (Instr N)} {old new new' : Util N}
    (hs : ∀ n, (new'.get n).map (·.idx) = (new.get n).map (·.idx)) (h : C07Rel p prog old new) :
    C07Rel p prog old new' := by
  have hH : ∀ n i, Hosts new' n i → Hosts new n i := fun n i hi => by
    show i ∈ _; rw [← hs]; exact hi
  have hlen : ∀ n, (new'.get n).length = (new.get n).length := fun n => by
    have := congrArg List.length (hs n); simpa using this
  refine ⟨?_, ?_, ?_⟩
  · intro u hu hout x hx hnd hst v hv hsup
    rcases h.noBubble u hu hout x hx hnd (hH _ _ hst) v hv hsup with h1 | ⟨h1, h2⟩
    · left; rw [hlen]; exact h1
    · exact Or.inr ⟨h1, h2.congr hs⟩
  · intro u hu hout x hx hnd hst
    exact h.flush u hu hout x hx hnd (hH _ _ hst)
  · intro d hd y hy hyold pn hpn x hx hlt hnd hsup hst
    obtain ⟨h1, h2, h3⟩ := h.oldest d hd y (hH _ _ hy) hyold pn hpn x hx hlt hnd hsup (hH _ _ hst)
    exact ⟨h1, h2, h3.congr hs⟩

variable [LT N] [DecidableRel (α := N) (· < ·)]

theorem afterMoves_fillCycle {p : Proc N} {prog : List (Instr N)} {old : Util N} {e : Nat} (hc : CycleHyp p e old) :
    AfterMoves p prog old e (fillCycle p prog old e).1 := by
  refine ⟨?_, ?_, ?_⟩
  · intro n
    obtain ⟨l', h1, h2⟩ := issueLoop_get_prefix (sortedInputs p) (prog.drop e) (moveFlights p prog old).1
      (moveFlights p prog old).2 e n
    exact ⟨l', h1, fun x hx => (h2 x hx).2.1⟩
  · intro n hn
    apply issueLoop_get_of_not_port
    intro hmem
    obtain ⟨m, hm, e1⟩ := List.mem_map.1 hmem
    exact hn (List.mem_map.2 ⟨m, mem_sortedInputs.1 hm, e1⟩)
  · exact hc.nd.after_fillCycle hc.base (structOK_nodup_names hc.wf) (structOK_preds_nodup hc.wf)
      (structOK_self_not_pred hc.wf) prog

theorem C07Rel.of_labelAll {p : Proc N} {prog : List (Instr N)} {old : Util N} {e : Nat} (hc : CycleHyp p e old)
    {units : List (UnitM N)} {qs : Queues N} {lab : Util N × List (N × Nat)}
    (hlab : labelAll units prog qs old (fillCycle p prog old e).1 = .ok lab) : C07Rel p prog old lab.1 :=
  (C07Rel.of_cycle (afterMoves_fillCycle hc) hc).congr (labelAll_get_idx hlab)

theorem Diagram_C07Rel {p : Proc N} {prog : List (Instr N)} (hs : structOK p = true) {tbl : List (Util N)}
    {stalled : Bool} (h : Spec.Diagram p prog tbl stalled) :
    ∀ t, t < tbl.length → C07Rel p prog (prevRow tbl t) (tbl.getD t ([] : List (N × List HI))) := by
  refine simulate_adjacent (CoreInv p prog) (CoreInv.init p prog) (fun _ _ hrun hr => hrun.step hs hr)
    (fun _ hrun => hrun.util_eq) (C07Rel p prog) ?_ tbl stalled h
  intro s s' hrun hr
  obtain ⟨lab, qs, hlab, _, _, rfl⟩ := runCycle_eq_some hr
  exact C07Rel.of_labelAll ⟨hs, hrun.row, hrun.nd⟩ hlab

end Adv
end ProcSim
