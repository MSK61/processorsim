import ProcSim.Lemmas.Sort
import ProcSim.Lemmas.AMap
import ProcSim.Spec.Text
/-!
# Lemmas about `Model/Bag.lean`

What `==`, `len` and `repr` of a record read of it, and when two records are equal; last, that the tests of the
C17 checker (`Spec/Text.lean`) decide what they stand for. "Keys without duplicates" is `(AMap.keys m).Nodup`
(true of every map built with `AMap.set`, in particular of `Bag.ofPairs`).

`BagValDict K V` = `AMap K (List V)` is a plain `def` for `List (K × List V)`; the lemmas are stated for the list
(so that `∈`, `++`, `induction` are available) and apply to records by unfolding.
-/
namespace ProcSim
namespace Bag

open List
open ISort

attribute [local implicit_reducible] AMap

variable {K V : Type} [DecidableEq K]

@[simp] theorem get_nil (k : K) : get ([] : List (K × List V)) k = [] := rfl

theorem get_cons (k' : K) (vs : List V) (m : List (K × List V)) (k : K) :
    get ((k', vs) :: m) k = if k' = k then vs else get m k := by
  unfold get
  rw [AMap.get?_cons]
  split <;> rfl

omit [DecidableEq K] in
@[simp] theorem keys_nil : AMap.keys ([] : List (K × List V)) = [] := AMap.keys_nil

theorem get_of_mem {m : List (K × List V)} (hn : (AMap.keys m).Nodup) {k : K} {vs : List V}
    (h : (k, vs) ∈ m) : get m k = vs := by
  unfold get
  rw [AMap.get?_of_mem hn h, Option.getD_some]

theorem get_eq_nil_of_not_mem_keys {m : List (K × List V)} {k : K} (h : k ∉ AMap.keys m) : get m k = [] := by
  unfold get
  rw [AMap.get?_eq_none_iff.2 h, Option.getD_none]

theorem mem_of_get_ne_nil {m : List (K × List V)} {k : K} (h : get m k ≠ []) :
    (k, get m k) ∈ m := by
  unfold get at h ⊢
  cases hg : AMap.get? m k with
  | none => rw [hg] at h; exact absurd rfl h
  | some l => exact AMap.mem_of_get?_eq_some hg

omit [DecidableEq K] in
theorem mem_items {m : List (K × List V)} {p : K × List V} :
    p ∈ (items m : List (K × List V)) ↔ p ∈ m ∧ p.2 ≠ [] := by
  unfold items
  rw [mem_filter]
  simp

def itemKeys (m : List (K × List V)) : List K := (items m : List (K × List V)).map (·.1)

omit [DecidableEq K] in
theorem length_itemKeys (m : List (K × List V)) : (itemKeys m).length = len m := by
  simp [itemKeys, len]

omit [DecidableEq K] in
theorem itemKeys_sublist (m : List (K × List V)) : (itemKeys m).Sublist (AMap.keys m) := by
  unfold itemKeys items AMap.keys
  exact (filter_sublist (l := m)).map _

omit [DecidableEq K] in
theorem itemKeys_nodup {m : List (K × List V)} (hn : (AMap.keys m).Nodup) : (itemKeys m).Nodup :=
  Nodup.sublist (itemKeys_sublist m) hn

theorem mem_itemKeys {m : List (K × List V)} (hn : (AMap.keys m).Nodup) {k : K} :
    k ∈ itemKeys m ↔ get m k ≠ [] := by
  unfold itemKeys
  rw [mem_map]
  constructor
  · rintro ⟨⟨k', vs⟩, hp, rfl⟩
    have := mem_items.1 hp
    rw [get_of_mem hn this.1]
    exact this.2
  · intro h
    exact ⟨(k, get m k), mem_items.2 ⟨mem_of_get_ne_nil h, h⟩, rfl⟩

theorem mem_items_iff {m : List (K × List V)} (hn : (AMap.keys m).Nodup) {k : K} {vs : List V} :
    (k, vs) ∈ (items m : List (K × List V)) ↔ vs = get m k ∧ vs ≠ [] := by
  rw [mem_items]
  constructor
  · rintro ⟨h, hne⟩; exact ⟨(get_of_mem hn h).symm, hne⟩
  · rintro ⟨rfl, hne⟩; exact ⟨mem_of_get_ne_nil hne, hne⟩

section beq
variable [DecidableEq V] (le : V → V → Bool)

theorem allItemsMatch_eq_all (self : List (K × List V)) (l : List (K × List V)) :
    allItemsMatch le self l = l.all (fun p => sameSorted le p.2 (get self p.1)) := by
  induction l with
  | nil => rfl
  | cons p rest ih =>
    obtain ⟨k, vs⟩ := p
    rw [allItemsMatch, ih, all_cons]

theorem allItemsMatch_iff (self : List (K × List V)) (l : List (K × List V)) :
    allItemsMatch le self l = true ↔ ∀ p ∈ l, isort le p.2 = isort le (get self p.1) := by
  rw [allItemsMatch_eq_all, all_eq_true]
  simp [sameSorted]

theorem allItemsMatch_congr {s s' : List (K × List V)} (h : ∀ k, get s k = get s' k) (l : List (K × List V)) :
    allItemsMatch le s l = allItemsMatch le s' l := by
  rw [allItemsMatch_eq_all, allItemsMatch_eq_all]
  simp only [h]

theorem beq_congr {s s' : List (K × List V)} (hg : ∀ k, get s k = get s' k) (hi : items s = items s')
    (o : List (K × List V)) : beq le s o = beq le s' o := by
  unfold beq len
  rw [allItemsMatch_congr le hg, hi]

theorem beq_iff (self other : List (K × List V)) :
    beq le self other = true ↔
      len self = len other ∧ ∀ p ∈ (items other : List (K × List V)), isort le p.2 = isort le (get self p.1) := by
  unfold beq
  rw [Bool.and_eq_true, beq_iff_eq, allItemsMatch_iff]
  rfl

end beq

theorem getM_fst (m : List (K × List V)) (k : K) : (getM m k).1 = get m k := by
  unfold getM get
  split <;> simp_all

theorem get_getM (m : List (K × List V)) (k k' : K) : get (getM m k).2 k' = get m k' := by
  unfold getM
  split
  · rfl
  · next h =>
    simp only
    unfold get
    by_cases hk : k = k'
    · subst hk; rw [AMap.get?_set_eq, h]; rfl
    · rw [AMap.get?_set_ne _ _ hk]

theorem items_getM (m : List (K × List V)) (k : K) : items (getM m k).2 = items m := by
  unfold getM
  split
  · rfl
  · next h =>
    simp only
    unfold items
    rw [AMap.set_of_get?_eq_none _ h, filter_append]
    simp

section beqM
variable [DecidableEq V] (le : V → V → Bool)

theorem allItemsMatchM_cons (s : List (K × List V)) (k : K) (vs : List V) (rest : List (K × List V)) :
    allItemsMatchM le s ((k, vs) :: rest) =
      if sameSorted le vs (getM s k).1 then allItemsMatchM le (getM s k).2 rest else (false, (getM s k).2) := by
  rw [allItemsMatchM]

theorem allItemsMatchM_spec (s : List (K × List V)) (l : List (K × List V)) :
    (allItemsMatchM le s l).1 = allItemsMatch le s l ∧
    (∀ k, get (allItemsMatchM le s l).2 k = get s k) ∧ items (allItemsMatchM le s l).2 = items s := by
  induction l generalizing s with
  | nil => exact ⟨rfl, fun _ => rfl, rfl⟩
  | cons p rest ih =>
    obtain ⟨k, vs⟩ := p
    rw [allItemsMatchM_cons, allItemsMatch, getM_fst]
    by_cases h : sameSorted le vs (get s k) = true
    · rw [if_pos h, h, Bool.true_and]
      obtain ⟨h1, h2, h3⟩ := ih (getM s k).2
      refine ⟨?_, ?_, ?_⟩
      · rw [h1]; exact allItemsMatch_congr le (get_getM s k) rest
      · intro k'; rw [h2, get_getM]
      · rw [h3, items_getM]
    · rw [if_neg h]
      simp only [Bool.not_eq_true] at h
      rw [h, Bool.false_and]
      exact ⟨rfl, get_getM s k, items_getM s k⟩

theorem beqM_spec (a b : List (K × List V)) :
    (beqM le a b).1 = beq le a b ∧ (∀ k, get (beqM le a b).2 k = get a k) ∧ items (beqM le a b).2 = items a := by
  unfold beqM beq
  by_cases h : (len a == (items b : List (K × List V)).length) = true
  · rw [if_pos h, h, Bool.true_and]
    exact allItemsMatchM_spec le a (items b)
  · rw [if_neg h]
    simp only [Bool.not_eq_true] at h
    rw [h, Bool.false_and]
    exact ⟨rfl, fun _ => rfl, rfl⟩

end beqM

omit [DecidableEq K] in
theorem len_congr {s s' : List (K × List V)} (h : items s = items s') : len s = len s' := by
  unfold len; rw [h]

omit [DecidableEq K] in
theorem repr_congr (leK : K → K → Bool) (le : V → V → Bool) (kp : K → String) (vp : V → String)
    {s s' : List (K × List V)} (h : items s = items s') : repr leK le kp vp s = repr leK le kp vp s' := by
  unfold repr formatElems canonEntries; rw [h]

theorem ne_nil_iff_of_perm {α : Type} {x y : List α} (h : x ~ y) : x ≠ [] ↔ y ≠ [] :=
  ⟨fun h1 h2 => h1 (h2 ▸ h).eq_nil, fun h1 h2 => h1 (h2 ▸ h.symm).eq_nil⟩

def SameBags (a b : List (K × List V)) : Prop := ∀ k, List.Perm (get a k) (get b k)

/-- the property text states the same under its own name; `Props/C17.lean` passes between the two by this -/
theorem C17_SameBags_iff {a b : BagValDict K V} : Spec.Text.C17_SameBags a b ↔ SameBags a b := Iff.rfl

theorem SameBags.symm {a b : List (K × List V)} (h : SameBags a b) : SameBags b a := fun k => (h k).symm

section main
variable [DecidableEq V] {le : V → V → Bool}

/-- **`__eq__`, for any comparison `le`**: with duplicate-free keys, `a == b` iff under every key the two entry
lists sort to the same list. `beq` only walks the non-empty entries of `b` and compares the numbers of non-empty
entries; that this covers the keys of `a` as well is the pigeonhole principle. -/
theorem beq_iff_isort {a b : List (K × List V)} (ha : (AMap.keys a).Nodup) (hb : (AMap.keys b).Nodup) :
    beq le a b = true ↔ ∀ k, isort le (get a k) = isort le (get b k) := by
  rw [beq_iff]
  constructor
  · rintro ⟨hlen, hall⟩
    have hne : ∀ k, get b k ≠ [] → isort le (get b k) = isort le (get a k) := fun k hk =>
      hall (k, get b k) ((mem_items_iff hb).2 ⟨rfl, hk⟩)
    -- the non-empty keys of `b` are non-empty keys of `a`; equally many, so they are all of them
    have hsub : ∀ k, k ∈ itemKeys b → k ∈ itemKeys a := by
      intro k hk
      rw [mem_itemKeys hb] at hk
      rw [mem_itemKeys ha]
      intro e
      have := hne k hk
      rw [e, isort_nil, isort_eq_nil] at this
      exact hk this
    have hsup := subset_of_nodup_subset_length_le (itemKeys_nodup hb) hsub
      (by rw [length_itemKeys, length_itemKeys, hlen]; exact Nat.le_refl _)
    intro k
    by_cases hk : get b k = []
    · have : get a k = [] := Classical.byContradiction fun e =>
        (mem_itemKeys hb).1 (hsup k ((mem_itemKeys ha).2 e)) hk
      rw [hk, this]
    · exact (hne k hk).symm
  · intro h
    have hnil : ∀ k, get a k ≠ [] ↔ get b k ≠ [] := fun k => by
      rw [ne_eq, ne_eq, ← isort_eq_nil le, ← isort_eq_nil le (l := get b k), h k]
    refine ⟨?_, ?_⟩
    · rw [← length_itemKeys, ← length_itemKeys]
      refine ((perm_ext_iff_of_nodup (itemKeys_nodup ha) (itemKeys_nodup hb)).2 fun k => ?_).length_eq
      rw [mem_itemKeys ha, mem_itemKeys hb]
      exact hnil k
    · rintro ⟨k, vs⟩ hp
      have := (mem_items_iff hb).1 hp
      simp only
      rw [this.1]
      exact (h k).symm

theorem beq_comm {a b : List (K × List V)} (ha : (AMap.keys a).Nodup) (hb : (AMap.keys b).Nodup) :
    beq le a b = beq le b a := by
  rw [Bool.eq_iff_iff, beq_iff_isort ha hb, beq_iff_isort hb ha]
  exact ⟨fun h k => (h k).symm, fun h k => (h k).symm⟩

theorem sameBags_of_beq {a b : List (K × List V)} (ha : (AMap.keys a).Nodup) (hb : (AMap.keys b).Nodup)
    (h : beq le a b = true) : SameBags a b :=
  fun k => perm_of_isort_eq ((beq_iff_isort ha hb).1 h k)

theorem beq_iff_sameBags (htot : TotalB le) (htr : TransB le)
    (hanti : ∀ x y, le x y = true → le y x = true → x = y)
    {a b : List (K × List V)} (ha : (AMap.keys a).Nodup) (hb : (AMap.keys b).Nodup) :
    beq le a b = true ↔ SameBags a b :=
  ⟨sameBags_of_beq ha hb,
    fun h => (beq_iff_isort ha hb).2 fun k => isort_eq_of_perm htot htr (fun x _ y _ => hanti x y) (h k)⟩

omit [DecidableEq V] in
theorem canonEntries_eq_of_sameBags {leK : K → K → Bool} (htot : TotalB le) (htr : TransB le)
    (hanti : ∀ x y, le x y = true → le y x = true → x = y)
    (hKtot : TotalB leK) (hKtr : TransB leK) (hKanti : ∀ x y, leK x y = true → leK y x = true → x = y)
    {a b : List (K × List V)} (ha : (AMap.keys a).Nodup) (hb : (AMap.keys b).Nodup) (h : SameBags a b) :
    canonEntries leK le a = canonEntries leK le b := by
  unfold canonEntries
  -- membership in the entry list before sorting by key
  have hmem : ∀ (m : List (K × List V)), (AMap.keys m).Nodup → ∀ k s,
      (k, s) ∈ (items m : List (K × List V)).map (fun p => (p.1, isort le p.2)) ↔
        get m k ≠ [] ∧ s = isort le (get m k) := by
    intro m hm k s
    rw [mem_map]
    constructor
    · rintro ⟨⟨k', vs⟩, hp, e⟩
      simp only [Prod.mk.injEq] at e
      obtain ⟨rfl, rfl⟩ := e
      have := (mem_items_iff hm).1 hp
      exact ⟨this.1 ▸ this.2, by rw [this.1]⟩
    · rintro ⟨hne, rfl⟩
      exact ⟨(k, get m k), (mem_items_iff hm).2 ⟨rfl, hne⟩, rfl⟩
  have hnd : ∀ (m : List (K × List V)), (AMap.keys m).Nodup →
      ((items m : List (K × List V)).map (fun p => (p.1, isort le p.2))).Nodup := by
    intro m hm
    have : (((items m : List (K × List V)).map (fun p => (p.1, isort le p.2))).map (·.1)).Nodup := by
      rw [map_map]
      exact itemKeys_nodup hm
    exact Pairwise.of_map (·.1) (fun x y hxy e => hxy (e ▸ rfl)) this
  have hperm : (items a : List (K × List V)).map (fun p => (p.1, isort le p.2)) ~
      (items b : List (K × List V)).map (fun p => (p.1, isort le p.2)) := by
    rw [perm_ext_iff_of_nodup (hnd a ha) (hnd b hb)]
    rintro ⟨k, s⟩
    rw [hmem a ha, hmem b hb, isort_eq_of_perm htot htr (fun x _ y _ => hanti x y) (h k)]
    rw [ne_nil_iff_of_perm (h k)]
  refine isort_eq_of_perm (le := fun (p q : K × List V) => leK p.1 q.1) (fun x y => hKtot x.1 y.1)
    (fun x y z => hKtr x.1 y.1 z.1) ?_ hperm
  rintro ⟨k, s⟩ hx ⟨k', s'⟩ hy h1 h2
  have hk : k = k' := hKanti k k' h1 h2
  subst hk
  rw [((hmem a ha k s).1 hx).2, ((hmem a ha k s').1 hy).2]

end main

end Bag

section checker
open Spec.Text Bag List
variable {K V : Type} [DecidableEq K] [DecidableEq V]

/-- the counting test decides `List.Perm`: a common element is erased from both lists, which lowers every count
alike -/
theorem permB_iff (x y : List V) : permB x y = true ↔ x ~ y := by
  constructor
  · intro h
    simp only [permB, Bool.and_eq_true, beq_iff_eq, all_eq_true] at h
    obtain ⟨hl, hc⟩ := h
    induction x generalizing y with
    | nil =>
      have : y = [] := length_eq_zero_iff.1 hl.symm
      subst this
      exact Perm.refl _
    | cons v x' ih =>
      have hv : v ∈ y := by
        have := hc v (mem_cons_self ..)
        rw [count_cons_self] at this
        exact count_pos_iff.1 (by omega)
      refine (Perm.cons v (ih (y.erase v) ?_ ?_)).trans (perm_cons_erase hv).symm
      · rw [length_erase_of_mem hv]
        simp only [length_cons] at hl
        omega
      · intro w hw
        have := hc w (mem_cons_of_mem _ hw)
        rw [count_cons] at this
        rw [count_erase]
        by_cases e : (v == w) = true
        · rw [if_pos e] at this ⊢; omega
        · rw [if_neg e] at this ⊢; omega
  · intro h
    simp only [permB, Bool.and_eq_true, beq_iff_eq, all_eq_true]
    exact ⟨h.length_eq, fun v _ => h.count_eq v⟩

/-- no hypothesis on the keys: both sides read the records through `get`, and a key of neither has `[]` in both -/
theorem sameBagsB_iff (a b : BagValDict K V) : sameBagsB a b = true ↔ C17_SameBags a b := by
  unfold sameBagsB C17_SameBags
  rw [all_eq_true]
  constructor
  · intro h k
    by_cases hk : k ∈ AMap.keys a ++ AMap.keys b
    · exact (permB_iff _ _).1 (h k hk)
    · rw [mem_append, not_or] at hk
      rw [Bag.get_eq_nil_of_not_mem_keys hk.1, Bag.get_eq_nil_of_not_mem_keys hk.2]
  · intro h k _
    exact (permB_iff _ _).2 (h k)

end checker
end ProcSim
