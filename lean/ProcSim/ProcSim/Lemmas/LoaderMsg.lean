import ProcSim.Model.LoaderMsg
import ProcSim.Spec.Text
/-!
# Lemmas about the loader's exception texts (Model/LoaderMsg.lean)

`Occurs` (Spec/Text.lean) bookkeeping, `repr`/`str(list)` facts and the tactic `occ` that finds a block among
left- or right-nested appends.
-/
namespace ProcSim
namespace LoaderMsg
open Spec.Text Loader

theorem occurs_self (p : List Char) : Occurs p p := ⟨[], [], by simp⟩

theorem occurs_append_right {p s : List Char} (t : List Char) (h : Occurs p s) : Occurs p (s ++ t) := by
  obtain ⟨a, b, rfl⟩ := h
  exact ⟨a, b ++ t, by simp⟩

theorem occurs_append_left {p s : List Char} (t : List Char) (h : Occurs p s) : Occurs p (t ++ s) := by
  obtain ⟨a, b, rfl⟩ := h
  exact ⟨t ++ a, b, by simp⟩

theorem occurs_cons {p s : List Char} (c : Char) (h : Occurs p s) : Occurs p (c :: s) :=
  occurs_append_left [c] h

theorem occurs_trans {a b c : List Char} (h₁ : Occurs a b) (h₂ : Occurs b c) : Occurs a c := by
  obtain ⟨p, q, rfl⟩ := h₁
  obtain ⟨r, s, rfl⟩ := h₂
  exact ⟨r ++ p, q ++ s, by simp⟩

/-- search a block in a tree of `++` / `::` -/
syntax "occ" : tactic
macro_rules
  | `(tactic| occ) => `(tactic| first
      | (with_reducible exact occurs_self _)
      | (with_reducible apply occurs_append_right; occ)
      | (with_reducible apply occurs_append_left; occ)
      | (with_reducible apply occurs_cons; occ))

section
variable {N : Type} (sh : N → String) (site : LockSite)

theorem messageAt_dupElem (o n : N) :
    (LoadError.dupElem o n).messageAt sh site = "Functional unit " ++ sh n ++ " previously added as " ++ sh o := rfl
theorem messageAt_badWidth (u : N) (w : Int) :
    (LoadError.badWidth u w).messageAt sh site =
      "Functional unit " ++ sh u ++ " has a bad width " ++ toString w ++ "." := rfl
theorem messageAt_badEdge (ed : List N) :
    (LoadError.badEdge ed).messageAt sh site =
      "Edge " ++ pyStrList (ed.map sh) ++ " doesn't connect exactly 2 functional units." := rfl
theorem messageAt_undefElem (x : N) :
    (LoadError.undefElem x).messageAt sh site = "Undefined functional unit " ++ sh x := rfl
theorem messageAt_cyclic : (LoadError.cyclic : LoadError N).messageAt sh site = "" := rfl
theorem messageAt_deadInput (p : N) :
    (LoadError.deadInput p).messageAt sh site =
      "No feasible path found from input port " ++ sh p ++ " to any output ports" := rfl
theorem messageAt_emptyProc : (LoadError.emptyProc : LoadError N).messageAt sh site = "No input ports found" := rfl
theorem messageAt_pathLock (s : N) (t : LockType) (c : N) :
    (LoadError.pathLock s t c).messageAt sh site = pathLockMessage sh site s t c := rfl
theorem messageAt_blockedCap (c p : N) :
    (LoadError.blockedCap c p).messageAt sh site =
      "Capability " ++ sh c ++ " blocked from " ++ "port " ++ sh p := rfl

theorem pathLockMessage_noLock (s : N) (t : LockType) (c : N) :
    pathLockMessage sh .noLock s t c =
      "Found a path starting at input port " ++ sh s ++ " with no " ++ t.code ++ " locks for capability " ++ sh c ++ "." := rfl
theorem pathLockMessage_multiple (s : N) (t : LockType) (c : N) :
    pathLockMessage sh .multiple s t c =
      "Found a path passing through " ++ sh s ++ " with multiple " ++ t.code ++ " locks for capability " ++ sh c ++ "." := rfl
theorem pathLockMessage_different (s : N) (t : LockType) (c : N) :
    pathLockMessage sh .different s t c =
      "Paths passing through " ++ sh s ++ " have different " ++ t.code ++ " locks for capability " ++ sh c ++ "." := rfl
end

theorem flatMap_verbatim (q : Char) : ∀ (l : List Char), (∀ c ∈ l, pyEscChar q c = [c]) → l.flatMap (pyEscChar q) = l
  | [], _ => rfl
  | c :: r, h => by
    have hc := h c (by simp)
    have hr := flatMap_verbatim q r (fun d hd => h d (by simp [hd]))
    simp only [List.flatMap_cons, hc, hr, List.singleton_append]

/-- without escapes `repr(s)` is `s` between the chosen quotes -/
theorem pyReprChars_verbatim {s : String} (h : ReprVerbatim s) :
    pyReprChars s.toList = pyQuote s.toList :: (s.toList ++ [pyQuote s.toList]) := by
  simp only [pyReprChars, flatMap_verbatim _ _ h]

theorem occurs_pyReprChars {s : String} (h : ReprVerbatim s) : Occurs s.toList (pyReprChars s.toList) := by
  rw [pyReprChars_verbatim h]
  occ

theorem occurs_joinComma : ∀ (l : List (List Char)) (x : List Char), x ∈ l → Occurs x (joinComma l)
  | [], _, h => by simp at h
  | [y], x, h => by
    simp only [List.mem_singleton] at h
    subst h
    exact occurs_self _
  | y :: z :: r, x, h => by
    simp only [joinComma]
    rcases List.mem_cons.1 h with rfl | h'
    · occ
    · have := occurs_joinComma (z :: r) x h'
      exact occurs_append_left _ (occurs_cons _ (occurs_cons _ this))

theorem occurs_pyStrList {l : List String} {x : String} (hx : x ∈ l) (hv : ReprVerbatim x) :
    Occurs x.toList (pyStrList l).toList := by
  simp only [pyStrList, String.toList_ofList, pyStrListChars]
  apply occurs_cons
  apply occurs_append_right
  apply occurs_trans (occurs_pyReprChars hv)
  apply occurs_joinComma
  exact List.mem_map.2 ⟨x.toList, List.mem_map.2 ⟨x, hx, rfl⟩, rfl⟩

theorem plain_pyQuote {s : String} (h : PlainName s) : pyQuote s.toList = '\'' := by
  have : s.toList.contains '\'' = false := by
    apply Bool.eq_false_iff.2
    intro hc
    have := List.contains_iff_mem.1 hc
    exact (h _ this).1 rfl
  simp only [pyQuote, this, Bool.false_and, Bool.false_eq_true, if_false]

theorem plain_verbatim {s : String} (h : PlainName s) : ReprVerbatim s := by
  intro c hc
  obtain ⟨h1, h2, h3, h4⟩ := h c hc
  rw [plain_pyQuote h]
  have ht : c ≠ '\t' := by rintro rfl; revert h3; decide
  have hn : c ≠ '\n' := by rintro rfl; revert h3; decide
  have hr : c ≠ '\r' := by rintro rfl; revert h3; decide
  have hlt : ¬ (c.toNat < 32 ∨ c.toNat = 127) := by omega
  simp only [pyEscChar, h1, h2, ht, hn, hr, hlt, or_self, if_false]

end LoaderMsg
end ProcSim
