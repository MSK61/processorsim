import ProcSim.Lemmas.RoutesCore
import ProcSim.Lemmas.LoaderBridge
/-!
# Bridge between the two route enumerations

* `Spec.routesFrom p c fuel s` (`Spec/Sim.lean`, used by `wfProc`): routes as lists of unit *models*, successors = the
  destinations listing the unit as a predecessor, in the order of `p.dests`;
* `(rgOfProc p).routesFrom c fuel s.name` (`Spec/Loader.lean`, used by C09): routes as lists of *names*, successors
  in the order of `procNames p`.

With unique unit names the name list of every route of the first enumeration is a route of the second
(`routesFrom_map_mem`), so C09's `LocksExact` gives `lockCountsOK` for every route `wfProc` looks at
(`lockCountsOK_of_locksExact`).

`routeLocksOK` (the route clause of `wfProc`) is split into `lockCountsOK` (exactly one read-locking and one
write-locking unit — what the loader checks) and `rdBeforeWr` (the read lock is not after the write lock — what the
loader does not check): `routeLocksOK_eq`, `wfProc_iff_struct_counts_order`.
-/
namespace ProcSim
open Spec

variable {N : Type} [DecidableEq N]

/-- positions on the route of the units with flag `f` (`·.rd` / `·.wr`) -/
def lockIdx (f : UnitM N → Bool) (r : List (UnitM N)) : List Nat :=
  (List.range r.length).filter (fun k => (r[k]?.map f).getD false)

def lockCountsOK (r : List (UnitM N)) : Bool :=
  (lockIdx (·.rd) r).length == 1 && (lockIdx (·.wr) r).length == 1

/-- the first read-locking unit of the route is not after the first write-locking unit (vacuous if either is
missing) -/
def rdBeforeWr (r : List (UnitM N)) : Bool :=
  match (lockIdx (·.rd) r).head?, (lockIdx (·.wr) r).head? with
  | some a, some b => decide (a ≤ b)
  | _, _ => true

omit [DecidableEq N] in
theorem routeLocksOK_eq (r : List (UnitM N)) : routeLocksOK r = (lockCountsOK r && rdBeforeWr r) := by
  show (match lockIdx (·.rd) r, lockIdx (·.wr) r with
      | [a], [b] => decide (a ≤ b)
      | _, _ => false) = _
  unfold lockCountsOK rdBeforeWr
  generalize lockIdx (·.rd) r = rd
  generalize lockIdx (·.wr) r = wr
  rcases rd with _ | ⟨a, _ | ⟨a', rd⟩⟩ <;> rcases wr with _ | ⟨b, _ | ⟨b', wr⟩⟩ <;> simp

omit [DecidableEq N] in
theorem lockIdx_cons (f : UnitM N → Bool) (a : UnitM N) (l : List (UnitM N)) :
    lockIdx f (a :: l) = (if f a = true then [0] else []) ++ (lockIdx f l).map (· + 1) := by
  unfold lockIdx
  rw [List.length_cons, List.range_succ_eq_map, List.filter_cons, List.filter_map]
  have : ((fun k => (Option.map f (a :: l)[k]?).getD false) ∘ Nat.succ) =
      (fun k => (Option.map f l[k]?).getD false) := by
    funext k; simp
  rw [this]
  by_cases h : f a = true <;> simp [h]

omit [DecidableEq N] in
theorem lockIdx_length (f : UnitM N → Bool) (l : List (UnitM N)) : (lockIdx f l).length = (l.filter f).length := by
  induction l with
  | nil => rfl
  | cons a l ih =>
    rw [lockIdx_cons, List.length_append, List.length_map, ih, List.filter_cons]
    by_cases h : f a = true <;> simp [h]; omega

/-- a check of every maximal capability route from an input-boundary port, enumerated exactly as `wfProc` does -/
def routesAll (p : Proc N) (q : List (UnitM N) → Bool) : Bool :=
  (allCaps p).all (fun c =>
    (p.inBoundary.filter (fun u => decide (c ∈ u.caps))).all (fun s =>
      (routesFrom p c p.allUnits.length s).all q))

theorem routesAll_iff (p : Proc N) (q : List (UnitM N) → Bool) :
    routesAll p q = true ↔ ∀ c ∈ allCaps p, ∀ s ∈ p.inBoundary, c ∈ s.caps →
      ∀ r ∈ routesFrom p c p.allUnits.length s, q r = true := by
  simp only [routesAll, List.all_eq_true, List.mem_filter, decide_eq_true_eq, and_imp]

/-- **the read lock is never after the write lock**, on every route `wfProc` looks at -/
def readNotAfterWrite (p : Proc N) : Bool := routesAll p rdBeforeWr

def lockCountsAll (p : Proc N) : Bool := routesAll p lockCountsOK

/-- **`wfProc`, reduced**: structural well-formedness, every unit has a capability, every route crosses exactly one
read-locking and one write-locking unit, and the read lock is not after the write lock. -/
theorem wfProc_iff_struct_counts_order (p : Proc N) :
    wfProc p = true ↔ structOK p = true ∧ p.allUnits.all (fun u => !u.caps.isEmpty) = true ∧
      lockCountsAll p = true ∧ readNotAfterWrite p = true := by
  rw [wfProc_iff_structOK_and]
  have : ((allCaps p).all (fun c =>
        (p.inBoundary.filter (fun u => decide (c ∈ u.caps))).all (fun s =>
          (routesFrom p c p.allUnits.length s).all routeLocksOK)) = true) ↔
      (lockCountsAll p = true ∧ readNotAfterWrite p = true) := by
    show routesAll p routeLocksOK = true ↔ _
    unfold lockCountsAll readNotAfterWrite
    simp only [routesAll_iff, routeLocksOK_eq, Bool.and_eq_true]
    exact ⟨fun h => ⟨fun c hc s hs hcs r hr => (h c hc s hs hcs r hr).1, fun c hc s hs hcs r hr => (h c hc s hs hcs r hr).2⟩,
      fun h c hc s hs hcs r hr => ⟨h.1 c hc s hs hcs r hr, h.2 c hc s hs hcs r hr⟩⟩
  rw [this]

open Loader.Spec in
theorem supB_iff {p : Proc N} (hn : (p.allUnits.map (·.name)).Nodup) {u : UnitM N} (hu : u ∈ p.allUnits) {c : N} :
    supB p u.name c = true ↔ c ∈ u.caps := by
  constructor
  · intro h
    unfold supB at h
    obtain ⟨m, hm, hmc⟩ := List.any_eq_true.1 h
    simp only [Bool.and_eq_true, decide_eq_true_eq] at hmc
    rw [← unit_eq_of_name_eq hn hm hu hmc.1]; exact hmc.2
  · exact Loader.LoaderBridge.supB_of_mem hu

open Loader.Spec in
theorem lockB_eq {p : Proc N} (hn : (p.allUnits.map (·.name)).Nodup) {u : UnitM N} (hu : u ∈ p.allUnits)
    (t : Loader.LockType) : lockB p t u.name = (match t with | .read => u.rd | .write => u.wr) := by
  unfold lockB
  apply Bool.eq_iff_iff.2
  rw [List.any_eq_true]
  constructor
  · rintro ⟨m, hm, hmc⟩
    simp only [Bool.and_eq_true, decide_eq_true_eq] at hmc
    rw [← unit_eq_of_name_eq hn hm hu hmc.1]; exact hmc.2
  · intro h
    exact ⟨u, hu, by simp only [decide_true, Bool.true_and]; exact h⟩

theorem succsOf_mem_allUnits {p : Proc N} {n : N} {v : UnitM N} (h : v ∈ succsOf p n) : v ∈ p.allUnits := by
  obtain ⟨d, hd, _, rfl⟩ := Routes.mem_succsOf.1 h
  exact model_mem_allUnits_of_mem_dests hd

theorem routesFrom_mem_allUnits {p : Proc N} (c : N) : ∀ (k : Nat) (u : UnitM N), u ∈ p.allUnits →
    ∀ r ∈ routesFrom p c k u, ∀ x ∈ r, x ∈ p.allUnits
  | 0, u, hu, r, hr, x, hx => by
    simp only [routesFrom, List.mem_singleton] at hr
    subst hr
    simp only [List.mem_singleton] at hx
    subst hx; exact hu
  | k + 1, u, hu, r, hr, x, hx => by
    simp only [routesFrom] at hr
    split at hr
    · simp only [List.mem_singleton] at hr
      subst hr
      simp only [List.mem_singleton] at hx
      subst hx; exact hu
    · obtain ⟨r', hr', rfl⟩ := List.mem_map.1 hr
      obtain ⟨v, hv, hrv⟩ := List.mem_flatMap.1 hr'
      rcases List.mem_cons.1 hx with e | e
      · subst e; exact hu
      · exact routesFrom_mem_allUnits c k v (succsOf_mem_allUnits (List.mem_filter.1 hv).1) r' hrv x e

open Loader.Spec in
/-- **The name list of every route `wfProc` enumerates is a route of the loader specification's enumeration** on
the graph of the processor object (same fuel). -/
theorem routesFrom_map_mem {p : Proc N} (hn : (p.allUnits.map (·.name)).Nodup) (c : N) :
    ∀ (k : Nat) (u : UnitM N) (r : List (UnitM N)), r ∈ routesFrom p c k u →
      r.map (·.name) ∈ (rgOfProc p).routesFrom c k u.name
  | 0, u, r, hr => by
    simp only [routesFrom, List.mem_singleton] at hr
    subst hr
    simp [RG.routesFrom]
  | k + 1, u, r, hr => by
    -- a successor in the first enumeration is one in the second
    have hfwd : ∀ v, v ∈ (succsOf p u.name).filter (fun v => decide (c ∈ v.caps)) →
        v.name ∈ ((rgOfProc p).succs u.name).filter (fun w => (rgOfProc p).sup w c) := by
      intro v hv
      obtain ⟨hv1, hv2⟩ := List.mem_filter.1 hv
      have hvu := succsOf_mem_allUnits hv1
      obtain ⟨d, hd, hpre, rfl⟩ := Routes.mem_succsOf.1 hv1
      refine List.mem_filter.2 ⟨List.mem_filter.2 ⟨List.mem_map.2 ⟨_, hvu, rfl⟩, ?_⟩, ?_⟩
      · exact (Loader.edgeB_iff p _ _).2 ⟨d, hd, rfl, hpre⟩
      · exact Loader.LoaderBridge.supB_of_mem hvu (by simpa using hv2)
    simp only [routesFrom] at hr
    simp only [RG.routesFrom]
    split at hr
    · next hemp =>
      simp only [List.mem_singleton] at hr
      subst hr
      -- no successor in the second enumeration either
      have hemp' : (((rgOfProc p).succs u.name).filter (fun w => (rgOfProc p).sup w c)).isEmpty = true := by
        rw [List.isEmpty_iff, List.eq_nil_iff_forall_not_mem]
        intro w hw
        obtain ⟨hw1, hw2⟩ := List.mem_filter.1 hw
        obtain ⟨hw3, hw4⟩ := List.mem_filter.1 hw1
        obtain ⟨f, hf, hfn, hpre⟩ := (Loader.edgeB_iff p _ _).1 hw4
        have hfu := model_mem_allUnits_of_mem_dests hf
        have hcap : c ∈ f.model.caps := (supB_iff hn hfu).1 (by rw [hfn]; exact hw2)
        have : f.model ∈ (succsOf p u.name).filter (fun v => decide (c ∈ v.caps)) :=
          List.mem_filter.2 ⟨Routes.mem_succsOf.2 ⟨f, hf, hpre, rfl⟩, by simpa using hcap⟩
        rw [List.isEmpty_iff.1 hemp] at this
        cases this
      rw [if_pos hemp']
      simp
    · obtain ⟨r', hr', rfl⟩ := List.mem_map.1 hr
      obtain ⟨v, hv, hrv⟩ := List.mem_flatMap.1 hr'
      have hv' := hfwd v hv
      have hne : ¬ (((rgOfProc p).succs u.name).filter (fun w => (rgOfProc p).sup w c)).isEmpty = true := by
        intro he
        rw [List.isEmpty_iff.1 he] at hv'
        cases hv'
      rw [if_neg hne]
      exact List.mem_flatMap.2 ⟨v.name, hv', List.mem_map.2 ⟨_, routesFrom_map_mem hn c k v r' hrv, rfl⟩⟩

open Loader.Spec Loader.LoaderRoutes in
/-- **C09's lock clause gives `lockCountsOK`** on every route `wfProc` enumerates from `s` for `c` -/
theorem lockCountsOK_of_locksExact {p : Proc N} (hn : (p.allUnits.map (·.name)).Nodup)
    (hac : (rgOfProc p).Acyclic) {s : UnitM N} (hs : s ∈ p.allUnits) {c : N} (hc : c ∈ s.caps)
    (hL : (rgOfProc p).LocksExact c s.name) :
    ∀ r ∈ routesFrom p c p.allUnits.length s, lockCountsOK r = true := by
  intro r hr
  have hmem := routesFrom_map_mem hn c _ s r hr
  have hlen : p.allUnits.length = (rgOfProc p).names.length := by
    show _ = (p.allUnits.map (·.name)).length
    rw [List.length_map]
  rw [hlen] at hmem
  have hmax := (mem_maxRoutes_iff (rgOfProc p) (Loader.LoaderBridge.connIn_rgOfProc p) hac
    (List.mem_map.2 ⟨s, hs, rfl⟩) (Loader.LoaderBridge.supB_of_mem hs hc)).1 hmem
  obtain ⟨h1, h2⟩ := hL _ hmax.1 hmax.2
  have hall := routesFrom_mem_allUnits c _ s hs r hr
  have key : ∀ (t : Loader.LockType) (f : UnitM N → Bool),
      (∀ x ∈ p.allUnits, lockB p t x.name = f x) →
      (rgOfProc p).lockCount t (r.map (·.name)) = (lockIdx f r).length := by
    intro t f hf
    unfold RG.lockCount
    rw [lockIdx_length, List.filter_map, List.length_map]
    congr 1
    apply List.filter_congr
    intro x hx
    exact hf x (hall x hx)
  rw [key .read (·.rd) (fun x hx => lockB_eq hn hx .read)] at h1
  rw [key .write (·.wr) (fun x hx => lockB_eq hn hx .write)] at h2
  simp [lockCountsOK, h1, h2]

end ProcSim
