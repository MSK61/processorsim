import ProcSim.Lemmas.LoaderBridge
import ProcSim.Lemmas.LoaderC10Check
/-!
# Stage by stage: what the loader rejects is what `Spec.defects` lists (C11)

`Spec.defects` looks for the documented defects stage by stage and stops at the first stage that finds one; `load`
runs its checks in the same order. For each stage, a rejecting check is shown to name a class that stage of `defects`
lists, with a real culprit (`Spec.culpritReal`), and an accepting check to leave that stage of `defects` empty. The
per-capability checks are compared with `capDefects` on the usable part of the description through `usable_equiv`.
`prepare_defects` and `load_defects` chain the stages.
-/

namespace ProcSim
namespace Loader
namespace LoaderDefects
open Spec LoaderLocks LoaderRoutes LoaderBridge

variable {N : Type} [DecidableEq N]

theorem occursBefore_append_of_mem {old new : N} : ∀ {l1 l2 : List N}, old ∈ l1 → new ∈ l2 →
    occursBefore old new (l1 ++ l2) = true
  | [], _, h, _ => by cases h
  | a :: l1, l2, h, hn => by
    simp only [List.cons_append, occursBefore, Bool.or_eq_true, Bool.and_eq_true, decide_eq_true_eq]
    rcases List.mem_cons.1 h with rfl | h
    · exact Or.inl ⟨rfl, List.mem_append_right _ hn⟩
    · exact Or.inr (occursBefore_append_of_mem h hn)

theorem occursBefore_pairwise {R : N → N → Prop} {old new : N} : ∀ {l : List N}, occursBefore old new l = true →
    l.Pairwise R → R old new
  | [], h, _ => by simp [occursBefore] at h
  | a :: l, h, hp => by
    simp only [occursBefore, Bool.or_eq_true, Bool.and_eq_true, decide_eq_true_eq] at h
    rw [List.pairwise_cons] at hp
    rcases h with ⟨rfl, hn⟩ | h
    · exact hp.1 new hn
    · exact occursBefore_pairwise h hp.2

theorem flag_eq_nil {b : Bool} {c : DefectClass} : flag b c = [] ↔ b = false := by
  cases b <;> simp [flag]

theorem mem_flag {b : Bool} {c x : DefectClass} : x ∈ flag b c ↔ b = true ∧ x = c := by
  cases b <;> simp [flag]

theorem firstStage_cons_of_nil {a : List DefectClass} (h : a = []) (rest : List (Unit → List DefectClass)) :
    firstStage ((fun _ => a) :: rest) = firstStage rest := by
  subst h
  rfl

theorem mem_firstStage_cons {a : List DefectClass} {x : DefectClass} (h : x ∈ a) (rest : List (Unit → List DefectClass)) :
    x ∈ firstStage ((fun _ => a) :: rest) := by
  cases a with
  | nil => cases h
  | cons b t => exact h

theorem firstStage_singleton (a : List DefectClass) : firstStage [fun _ => a] = a := by
  cases a <;> rfl

section Stage1
variable (fold : N → N)

theorem addUnits_error : ∀ (us : List (UnitD N)) (names reg : List N) (e : LoadError N),
    addUnits fold us names reg = .error e →
    (∃ old new, e = .dupElem old new ∧ fold old = fold new ∧
        occursBefore old new (names ++ us.map (·.name)) = true) ∨
    (∃ u ∈ us, e = .badWidth u.name u.width ∧ u.width ≤ 0)
  | [], _, _, e, h => by cases h
  | u :: us, names, reg, e, h => by
    rcases (addUnits_cons_error_iff fold).1 h with ⟨old, hold, rfl⟩ | ⟨-, ⟨hw, rfl⟩ | ⟨-, h'⟩⟩
    · obtain ⟨hmem, hfold⟩ := lookupFold_some fold hold
      exact .inl ⟨old, u.name, rfl, hfold, occursBefore_append_of_mem hmem (by simp)⟩
    · exact .inr ⟨u, List.mem_cons_self, rfl, hw⟩
    · rcases addUnits_error us _ _ e h' with ⟨old, new, h1, h2, h3⟩ | ⟨x, hx, h1, h2⟩
      · exact .inl ⟨old, new, h1, h2, by simpa [List.append_assoc] using h3⟩
      · exact .inr ⟨x, List.mem_cons_of_mem _ hx, h1, h2⟩

/-- the first entry of `Spec.defects`, written out so that it has a name (`defects_eq` holds by `rfl` as long as the
two texts agree) -/
def stage1 (d : Desc N) : List DefectClass := flag (hasDupName fold d) .dupElem ++ flag (hasBadWidth d) .badWidth

theorem hasDupName_false_iff (d : Desc N) :
    hasDupName fold d = false ↔ (d.units.map (·.name)).Pairwise (fun a b => fold a ≠ fold b) := by
  unfold hasDupName
  rw [Bool.not_eq_false', uniqueUpToFold_iff]

omit [DecidableEq N] in
theorem hasBadWidth_false_iff (d : Desc N) : hasBadWidth d = false ↔ ∀ u ∈ d.units, 0 < u.width := by
  unfold hasBadWidth
  rw [← Bool.not_eq_true, List.any_eq_true]
  constructor
  · intro h u hu
    apply Classical.byContradiction
    intro hw
    exact h ⟨u, hu, by simpa using (by omega : u.width ≤ 0)⟩
  · rintro h ⟨u, hu, hw⟩
    have := h u hu
    simp at hw
    omega

theorem stage1_of_ok {d : Desc N} {r : List (GNode N) × List N} (h : addUnits fold d.units [] [] = .ok r) :
    stage1 fold d = [] := by
  unfold stage1
  rw [List.append_eq_nil_iff, flag_eq_nil, flag_eq_nil, hasDupName_false_iff, hasBadWidth_false_iff]
  exact ⟨(addUnits_ok fold _ _ _ r h).2.2.2, (addUnits_ok fold _ _ _ r h).2.1⟩

theorem stage1_of_error {d : Desc N} {e : LoadError N} (h : addUnits fold d.units [] [] = .error e) :
    e.cls ∈ stage1 fold d ∧ culpritReal fold d e = true := by
  rcases addUnits_error fold _ _ _ e h with ⟨old, new, rfl, h2, h3⟩ | ⟨u, hu, rfl, hw⟩
  · simp only [List.nil_append] at h3
    constructor
    · unfold stage1
      rw [List.mem_append]
      left
      rw [mem_flag]
      refine ⟨?_, rfl⟩
      cases hd : hasDupName fold d with
      | true => rfl
      | false =>
        rw [hasDupName_false_iff] at hd
        exact absurd h2 (occursBefore_pairwise h3 hd)
    · simp [culpritReal, h2, h3]
  · constructor
    · unfold stage1
      rw [List.mem_append]
      right
      rw [mem_flag]
      refine ⟨?_, rfl⟩
      unfold hasBadWidth
      rw [List.any_eq_true]
      exact ⟨u, hu, by simpa using hw⟩
    · simp only [culpritReal, Bool.and_eq_true, List.any_eq_true, decide_eq_true_eq]
      exact ⟨⟨u, hu, rfl, rfl⟩, hw⟩

end Stage1

section Stage2
variable (fold : N → N)

theorem addEdges_error (names : List N) : ∀ (es : List (List N)) (acc : List (N × N)) (e : LoadError N),
    addEdges fold names es acc = .error e →
    (∃ ed ∈ es, e = .badEdge ed ∧ ed.length ≠ 2) ∨
    (∃ x, e = .undefElem x ∧ (∃ ed ∈ es, ed.length = 2 ∧ x ∈ ed) ∧ lookupFold fold names x = none)
  | [], _, _, h => by cases h
  | ed :: es, acc, e, h => by
    by_cases hl : ed.length = 2
    · obtain ⟨a, b, rfl⟩ := exists_pair_of_length_eq_two hl
      rcases (addEdges_pair_error_iff fold).1 h with ⟨ha, rfl⟩ | ⟨a', -, ⟨hb, rfl⟩ | ⟨b', -, h'⟩⟩
      · exact .inr ⟨a, rfl, ⟨[a, b], List.mem_cons_self, rfl, by simp⟩, ha⟩
      · exact .inr ⟨b, rfl, ⟨[a, b], List.mem_cons_self, rfl, by simp⟩, hb⟩
      · rcases addEdges_error names es _ e h' with ⟨ed, hed, h1, h2⟩ | ⟨x, h1, ⟨ed, hed, h2, h3⟩, h4⟩
        · exact .inl ⟨ed, List.mem_cons_of_mem _ hed, h1, h2⟩
        · exact .inr ⟨x, h1, ⟨ed, List.mem_cons_of_mem _ hed, h2, h3⟩, h4⟩
    · rw [addEdges_badEdge fold hl] at h
      cases h
      exact .inl ⟨ed, List.mem_cons_self, rfl, hl⟩

/-- the second entry of `Spec.defects` (see `stage1`) -/
def stage2 (d : Desc N) : List DefectClass := flag (hasBadEdge d) .badEdge ++ flag (hasUndef fold d) .undefElem

theorem stdName_eq (d : Desc N) (x : N) : stdName fold d x = lookupFold fold (d.units.map (·.name)) x := rfl

theorem stage2_of_ok {d : Desc N} {es : List (N × N)}
    (h : addEdges fold (d.units.map (·.name)) d.edges [] = .ok es) : stage2 fold d = [] := by
  have hall := (addEdges_ok fold _ _ _ _ h).2.2
  unfold stage2
  rw [List.append_eq_nil_iff, flag_eq_nil, flag_eq_nil]
  constructor
  · unfold hasBadEdge
    rw [← Bool.not_eq_true, List.any_eq_true]
    rintro ⟨e, he, hl⟩
    obtain ⟨a, b, rfl, _, _⟩ := hall e he
    simp at hl
  · unfold hasUndef
    rw [← Bool.not_eq_true, List.any_eq_true]
    rintro ⟨e, he, hl⟩
    obtain ⟨a, b, rfl, ha, hb⟩ := hall e he
    simp only [List.length_cons, List.length_nil, Nat.zero_add, Nat.reduceAdd, BEq.rfl, List.any_cons, List.any_nil,
      Bool.or_false, Bool.true_and, Bool.or_eq_true, Option.isNone_iff_eq_none, stdName_eq] at hl
    rcases hl with hl | hl
    · rw [hl] at ha; cases ha
    · rw [hl] at hb; cases hb

theorem stage2_of_error {d : Desc N} {e : LoadError N}
    (h : addEdges fold (d.units.map (·.name)) d.edges [] = .error e) :
    e.cls ∈ stage2 fold d ∧ culpritReal fold d e = true := by
  rcases addEdges_error fold _ _ _ e h with ⟨ed, hed, rfl, hl⟩ | ⟨x, rfl, ⟨ed, hed, hl, hx⟩, hnone⟩
  · constructor
    · unfold stage2
      rw [List.mem_append]
      left
      rw [mem_flag]
      refine ⟨?_, rfl⟩
      unfold hasBadEdge
      rw [List.any_eq_true]
      exact ⟨ed, hed, by simpa using hl⟩
    · simp only [culpritReal, Bool.and_eq_true, decide_eq_true_eq]
      exact ⟨hed, by simpa using hl⟩
  · constructor
    · unfold stage2
      rw [List.mem_append]
      right
      rw [mem_flag]
      refine ⟨?_, rfl⟩
      unfold hasUndef
      rw [List.any_eq_true]
      refine ⟨ed, hed, ?_⟩
      rw [Bool.and_eq_true, List.any_eq_true]
      exact ⟨by simpa using hl, x, hx, by rw [stdName_eq, hnone]; rfl⟩
    · simp only [culpritReal, Bool.and_eq_true, List.any_eq_true, decide_eq_true_eq]
      exact ⟨⟨ed, hed, hx⟩, by rw [stdName_eq, hnone]; rfl⟩

end Stage2

theorem acyclic_rgAll_iff {dg : DG N} {g : Graph N} (hm : DGMatch dg g) :
    dg.rgAll.Acyclic ↔ (rgOfGraph g).Acyclic := by
  have hconn : dg.rgAll.conn = (rgOfGraph g).conn := by
    funext a b
    show dg.conn a b = decide ((a, b) ∈ g.edges)
    rw [Bool.eq_iff_iff, hm.conn, decide_eq_true_eq]
  unfold RG.Acyclic RG.Walk
  rw [hconn]

theorem isAcyclic_iff_acyclicB {dg : DG N} {g : Graph N} (hm : DGMatch dg g) (hwf : g.WF) (hc : dg.ConnIn) :
    isAcyclic g = true ↔ dg.rgAll.acyclicB = true := by
  have hin : ConnIn dg.rgAll := fun a b hab => (hc a b (DG.conn_iff.1 hab)).2
  rw [isAcyclic_iff_acyclic hwf, acyclicB_iff _ hin, acyclic_rgAll_iff hm]

theorem chkTerminals_ok_inputs_kept {g : Graph N} {fuel : Nat} {g1 g2 : Graph N}
    (h : chkTerminals g.inPorts g.outPorts fuel g1 = .ok g2) : ∀ p ∈ g.inPorts, p ∈ g1.names → p ∈ g2.names := by
  refine (chkTerminals_inv (P := fun g' => ∀ p ∈ g.inPorts, p ∈ g1.names → p ∈ g'.names) ?_ fuel g1
    (fun p _ hp => hp)).1 g2 h
  intro g' hP hno p hp hp1
  rw [Graph.mem_names_removeNodes]
  exact ⟨hP p hp hp1, fun hd => hno p hd hp⟩

section Tables
variable {dg : DG N} {g : Graph N}

theorem mem_deadInputs_iff (hn : dg.names.Nodup) (hc : dg.ConnIn) (ha : dg.rgAll.Acyclic) {p : N} :
    p ∈ deadInputs dg ↔ dg.origIn p = true ∧ (∃ c, dg.Feeds c p) ∧ ¬ dg.Live p := by
  have ht : ∀ u c, c ∈ capsIn dg.keptTable u ↔ dg.Feeds c u := fun u c => DG.mem_keptTable_iff hn hc ha
  unfold deadInputs
  simp only [List.mem_filter, Bool.and_eq_true, Bool.not_eq_true', decide_eq_false_iff_not]
  rw [DG.mem_liveIn_iff ht hc ha]
  have hne := DG.capsIn_nonempty_iff ht (u := p)
  rw [Bool.not_eq_true'] at hne
  rw [hne]
  constructor
  · rintro ⟨_, ⟨h1, h2⟩, h3⟩; exact ⟨h1, h2, h3⟩
  · rintro ⟨h1, h2, h3⟩
    refine ⟨?_, ⟨h1, h2⟩, h3⟩
    unfold DG.origIn at h1
    simp only [Bool.and_eq_true, decide_eq_true_eq] at h1
    exact h1.1

theorem hasLiveInput_iff (hn : dg.names.Nodup) (hc : dg.ConnIn) (ha : dg.rgAll.Acyclic) :
    hasLiveInput dg = true ↔ ∃ u, dg.origIn u = true ∧ dg.Live u := by
  unfold hasLiveInput
  simp only [List.any_eq_true, Bool.and_eq_true, decide_eq_true_eq, DG.mem_liveUnits_iff hn hc ha]
  constructor
  · rintro ⟨u, _, h1, h2⟩; exact ⟨u, h1, h2⟩
  · rintro ⟨u, h1, h2⟩
    refine ⟨u, ?_, h1, h2⟩
    unfold DG.origIn at h1
    simp only [Bool.and_eq_true, decide_eq_true_eq] at h1
    exact h1.1

end Tables

section Usable
variable (fold : N → N) {d : Desc N} {g g2 : Graph N} {reg : List N}

/-- what stages 1–3 establish about the description graph -/
theorem dg_facts (hcg : createGraph fold d = .ok (g, reg)) (hac : isAcyclic g = true) :
    g.WF ∧ DGMatch (dgOf fold d) g ∧ (dgOf fold d).names.Nodup ∧ (dgOf fold d).ConnIn ∧
      (dgOf fold d).rgAll.Acyclic := by
  have hwf : g.WF := createGraph_WF fold hcg
  have hm : DGMatch (dgOf fold d) g := createGraph_match fold hcg
  refine ⟨hwf, hm, hm.names ▸ hwf.namesNodup, dgOf_connIn fold d, ?_⟩
  exact (acyclic_rgAll_iff hm).2 ((isAcyclic_iff_acyclic hwf).1 hac)

theorem lock_usable (T : Pruned fold d g g2 reg) (t : LockType) {u : N} (hu : u ∈ g2.names) :
    nodeLock g2 t u = (dgOf fold d).usable.lock t u := by
  obtain ⟨n, hn, rfl⟩ := Graph.mem_names.1 hu
  obtain ⟨x, hx, hxn, -⟩ := T.origin n hn
  have hunit : (dgOf fold d).unit? x.name =
      some { x with caps := declared fold d x, acl := x.acl.map (stdCapName fold d) } :=
    DG.unit?_of_mem (T.dgMatch.names ▸ T.wf0.namesNodup) (List.mem_map.2 ⟨x, hx, rfl⟩)
  unfold nodeLock
  rw [Graph.node?_of_mem T.wf2.namesNodup hn]
  simp only [DG.usable, DG.usableOf]
  rw [← hxn.name, hunit]
  cases t
  · exact hxn.rd.symm
  · exact hxn.wr.symm

theorem usable_equiv (T : Pruned fold d g g2 reg) : RGEquivOn (rgOfGraph g2) (dgOf fold d).usable := by
  obtain ⟨hwf, hm, hn, hc, ha⟩ := dg_facts fold T.created T.acyclic0
  have ht : ∀ u c, c ∈ capsIn (dgOf fold d).keptTable u ↔ (dgOf fold d).Feeds c u :=
    fun u c => DG.mem_keptTable_iff hn hc ha
  have hnames : ∀ u, u ∈ g2.names ↔ u ∈ (dgOf fold d).liveIn (dgOf fold d).keptTable := by
    intro u
    rw [T.live, DG.mem_liveIn_iff ht hc ha, hm.live hwf]
  refine ⟨hnames, ?_, ?_, fun t u hu => lock_usable fold T t hu⟩
  · intro a b
    show decide ((a, b) ∈ g2.edges) =
      (decide (a ∈ (dgOf fold d).liveIn (dgOf fold d).keptTable) &&
        decide (b ∈ (dgOf fold d).liveIn (dgOf fold d).keptTable) &&
        (dgOf fold d).keptConnT (dgOf fold d).keptTable a b)
    rw [Bool.eq_iff_iff]
    simp only [Bool.and_eq_true, decide_eq_true_eq]
    rw [T.kept, ← hnames, ← hnames, T.live, T.live, DG.keptConnT_iff ht, hm.keptConn hwf]
    constructor
    · rintro ⟨h1, h2, h3⟩; exact ⟨⟨h2, h3⟩, h1⟩
    · rintro ⟨⟨h2, h3⟩, h1⟩; exact ⟨h1, h2, h3⟩
  · intro u hu c
    show decide (c ∈ g2.capsOf u) = decide (c ∈ capsIn (dgOf fold d).keptTable u)
    rw [decide_eq_decide, ht, hm.feeds hwf]
    exact T.mem_capsOf hu c

end Usable

section Stage6
variable {g2 : Graph N} {U : RG N} {capsOf : N → List N}

omit [DecidableEq N] in
theorem mem_offered {pc : N × N} :
    pc ∈ offered U capsOf ↔ pc.1 ∈ U.names ∧ U.isIn pc.1 = true ∧ pc.2 ∈ capsOf pc.1 := by
  obtain ⟨p, c⟩ := pc
  unfold offered
  simp only [List.mem_flatMap, List.mem_filter, List.mem_map, Prod.mk.injEq]
  constructor
  · rintro ⟨q, ⟨h1, h2⟩, c', h3, rfl, rfl⟩; exact ⟨h1, h2, h3⟩
  · rintro ⟨h1, h2, h3⟩; exact ⟨p, ⟨h1, h2⟩, c, h3, rfl, rfl⟩

theorem offered_iff (hE : RGEquivOn (rgOfGraph g2) U) (hwf2 : g2.WF)
    (hsup : ∀ u c, U.sup u c = decide (c ∈ capsOf u)) {p c : N} :
    (p, c) ∈ offered U capsOf ↔ p ∈ g2.inPorts ∧ c ∈ g2.capsOf p := by
  rw [mem_offered]
  have hcaps : ∀ p ∈ g2.names, (c ∈ g2.capsOf p ↔ c ∈ capsOf p) := fun p hp =>
    decide_eq_decide.1 ((hE.sup p hp c).trans (hsup p c))
  constructor
  · rintro ⟨h1, h2, h3⟩
    have hp : p ∈ g2.names := (hE.names p).2 h1
    exact ⟨(isIn_iff_mem_inPorts hwf2.edgesIn hp).1 ((hE.isIn_iff p).2 h2), (hcaps p hp).2 h3⟩
  · rintro ⟨h1, h2⟩
    have hp : p ∈ g2.names := (Graph.mem_inPorts.1 h1).1
    exact ⟨(hE.names p).1 hp, (hE.isIn_iff p).1 ((isIn_iff_mem_inPorts hwf2.edgesIn hp).2 h1), (hcaps p hp).1 h2⟩

/-- a check `B` that decides `P` on the offered pairs fails somewhere iff `P` fails at some input port of the final graph -/
theorem offered_any_iff (hE : RGEquivOn (rgOfGraph g2) U) (hwf2 : g2.WF)
    (hsup : ∀ u c, U.sup u c = decide (c ∈ capsOf u)) {B : N → N → Bool} {P : N → N → Prop}
    (hB : ∀ p c, p ∈ g2.inPorts → c ∈ g2.capsOf p → (B c p = true ↔ P c p)) :
    (offered U capsOf).any (fun pc => !B pc.2 pc.1) = true ↔ ∃ p ∈ g2.inPorts, ∃ c ∈ g2.capsOf p, ¬ P c p := by
  rw [List.any_eq_true]
  constructor
  · rintro ⟨⟨p, c⟩, hmem, hno⟩
    obtain ⟨h1, h2⟩ := (offered_iff hE hwf2 hsup).1 hmem
    refine ⟨p, h1, c, h2, fun hP => ?_⟩
    rw [(hB p c h1 h2).2 hP] at hno
    cases hno
  · rintro ⟨p, h1, c, h2, hno⟩
    refine ⟨(p, c), (offered_iff hE hwf2 hsup).2 ⟨h1, h2⟩, ?_⟩
    cases hb : B c p with
    | false => rfl
    | true => exact absurd ((hB p c h1 h2).1 hb) hno

theorem stage6_flags (hE : RGEquivOn (rgOfGraph g2) U) (hwf2 : g2.WF) (hac2 : isAcyclic g2 = true)
    (hsup : ∀ u c, U.sup u c = decide (c ∈ capsOf u)) :
    (hasPathLock U capsOf = true ↔ ∃ p ∈ g2.inPorts, ∃ c ∈ g2.capsOf p, ¬ (rgOfGraph g2).LocksExact c p) ∧
    (hasBlockedCap U capsOf = true ↔ ∃ p ∈ g2.inPorts, ∃ c ∈ g2.capsOf p, ¬ (rgOfGraph g2).ReachesOut c p) := by
  have hc2 := connIn_rgOfGraph hwf2
  have hcU : ConnIn U := hE.connIn hc2
  have haU : U.Acyclic := hE.acyclic_iff.1 ((isAcyclic_iff_acyclic hwf2).1 hac2)
  have hU : ∀ p c, p ∈ g2.inPorts → c ∈ g2.capsOf p → p ∈ g2.names ∧ p ∈ U.names ∧ U.sup p c = true := by
    intro p c h1 h2
    have := mem_offered.1 ((offered_iff hE hwf2 hsup).2 ⟨h1, h2⟩)
    exact ⟨(Graph.mem_inPorts.1 h1).1, this.1, by rw [hsup]; exact decide_eq_true this.2.2⟩
  constructor
  · refine offered_any_iff hE hwf2 hsup fun p c h1 h2 => ?_
    obtain ⟨hp, hpU, hs⟩ := hU p c h1 h2
    rw [locksExactB_iff U hcU haU hpU hs, ← hE.locksExact_iff hc2 hp]
  · refine offered_any_iff hE hwf2 hsup fun p c h1 h2 => ?_
    obtain ⟨hp, hpU, hs⟩ := hU p c h1 h2
    rw [reachesOutB_iff U hcU haU hpU hs, ← hE.reachesOut_iff hc2 hp]

/-- what `culpritReal` asks of a `PathLockError`: that branch of `Spec.culpritReal` with the usable part abstracted
to `U`; `caps_defect` hands `stage6_culprit` to `culpritReal` by unfolding, which works as long as the texts agree -/
def pathLockCulprit (U : RG N) (start : N) (t : LockType) (cap : N) : Bool :=
  let counts := (U.maxRoutes cap start).map (U.lockCount t)
  decide (start ∈ U.names) && U.sup start cap &&
    (counts.any (fun k => decide (2 ≤ k)) ||
     counts.any (fun k => counts.any (fun k' => k != k')) ||
     (U.isIn start && counts.any (fun k => k == 0)))

/-- what `culpritReal` asks of a `BlockedCapError` (see `pathLockCulprit`) -/
def blockedCulprit (U : RG N) (cap port : N) : Bool :=
  decide (port ∈ U.names) && U.isIn port && U.sup port cap && !U.reachesOutB cap port

/-- the culprits `chkCaps` names are real in every capability graph equivalent to the final graph -/
theorem stage6_culprit (hE : RGEquivOn (rgOfGraph g2) U) (hwf2 : g2.WF) (hac2 : isAcyclic g2 = true)
    {e : LoadError N} (h : chkCaps g2 = .error e) :
    (∃ u t c, e = .pathLock u t c ∧ pathLockCulprit U u t c = true) ∨
    (∃ c p, e = .blockedCap c p ∧ blockedCulprit U c p = true) := by
  have hc2 := connIn_rgOfGraph hwf2
  have ha2 := (isAcyclic_iff_acyclic hwf2).1 hac2
  have hcU : ConnIn U := hE.connIn hc2
  have haU : U.Acyclic := hE.acyclic_iff.1 ha2
  rcases chkCaps_error hwf2 hac2 h with ⟨u, t, c, he, hc, hb⟩ | ⟨c, p, he, hpi, hc, hno⟩
  · left
    refine ⟨u, t, c, he, ?_⟩
    have hu : u ∈ g2.names := mem_names_of_capsOf hc
    have huU : u ∈ U.names := (hE.names u).1 hu
    have hsU : U.sup u c = true := by
      rw [← hE.sup u hu c]; simpa only [rgOfGraph_conn, rgOfGraph_sup] using hc
    -- a maximal route of the final graph is listed by `maxRoutes`, with the same lock count
    have hroute : ∀ r, MaxRouteFrom g2 c u r →
        U.lockCount t r ∈ (U.maxRoutes c u).map (U.lockCount t) ∧ U.lockCount t r = (rgOfGraph g2).lockCount t r := by
      intro r hr
      have hm := (hE.isMaxRoute_iff hc2 hu hr.2).1 hr.1
      exact ⟨List.mem_map.2 ⟨r, (mem_maxRoutes_iff U hcU haU huU hsU).2 ⟨hm, hr.2⟩, rfl⟩,
        (hE.lockCount_route hc2 t hu hr.2 hr.1.1).symm⟩
    unfold pathLockCulprit
    simp only [Bool.and_eq_true, Bool.or_eq_true, decide_eq_true_eq, List.any_eq_true]
    refine ⟨⟨huU, hsU⟩, ?_⟩
    rcases hb with (⟨r, hr, h2⟩ | ⟨r1, r2, h1, h2, hne⟩) | ⟨hui, r, hr, h0⟩
    · obtain ⟨hm, heq⟩ := hroute r hr
      exact Or.inl (Or.inl ⟨_, hm, by rw [heq]; exact h2⟩)
    · obtain ⟨hm1, heq1⟩ := hroute r1 h1
      obtain ⟨hm2, heq2⟩ := hroute r2 h2
      refine Or.inl (Or.inr ⟨_, hm1, _, hm2, ?_⟩)
      rw [heq1, heq2]
      simpa using hne
    · obtain ⟨hm, heq⟩ := hroute r hr
      refine Or.inr ⟨(hE.isIn_iff u).1 ((isIn_iff_mem_inPorts hwf2.edgesIn hu).2 hui), _, hm, ?_⟩
      rw [heq, h0]; rfl
  · right
    refine ⟨c, p, he, ?_⟩
    have hp : p ∈ g2.names := (Graph.mem_inPorts.1 hpi).1
    have hpU : p ∈ U.names := (hE.names p).1 hp
    have hsU : U.sup p c = true := by
      rw [← hE.sup p hp c]; simpa only [rgOfGraph_conn, rgOfGraph_sup] using hc
    unfold blockedCulprit
    simp only [Bool.and_eq_true, decide_eq_true_eq, Bool.not_eq_true']
    refine ⟨⟨⟨hpU, (hE.isIn_iff p).1 ((isIn_iff_mem_inPorts hwf2.edgesIn hp).2 hpi)⟩, hsU⟩, ?_⟩
    cases hb : U.reachesOutB c p with
    | false => rfl
    | true => exact absurd ((hE.reachesOut_iff hc2 hp).2 ((reachesOutB_iff U hcU haU hpU hsU).1 hb)) hno

end Stage6

section MakeProc
variable [LT N] [DecidableRel (α := N) (· < ·)] (fold : N → N)

/-- `load` cannot fail on an acyclic graph: the topological order, reversed and mapped through `fuOf`, is a sink-first
list holding every internal unit, which is what `postOrder` needs to succeed. -/
theorem makeProcessor_isSome {g : Graph N} (reg : List N) (hwf : g.WF) (hac : isAcyclic g = true) :
    (makeProcessor fold reg g).isSome = true := by
  -- the unit of `u` lists the unit of `v` among its predecessors iff `(v, u)` is an edge
  have hpred : ∀ {u v : N} {n n' : GNode N}, g.node? u = some n → g.node? v = some n' →
      ((fuOf fold reg g n').model.name ∈ (fuOf fold reg g n).preds ↔ (v, u) ∈ g.edges) := by
    intro u v n n' hn hn'
    simp only [fuOf_model, mkModel_name, fuOf_preds, mem_sortNames, Graph.mem_preds, (Graph.node?_some hn).2,
      (Graph.node?_some hn').2]
  have hsink : SinkFirst ((topoOrder g).reverse.filterMap (fun u => (g.node? u).map (fuOf fold reg g))) := by
    constructor
    · refine List.Pairwise.filterMap _ ?_ (List.pairwise_reverse.2 (topoOrder_forward g))
      intro u v huv a ha b hb
      obtain ⟨n, hn, rfl⟩ := Option.map_eq_some_iff.1 ha
      obtain ⟨n', hn', rfl⟩ := Option.map_eq_some_iff.1 hb
      exact fun h => huv ((hpred hn' hn).1 h)
    · intro a ha
      obtain ⟨u, hu, hm⟩ := List.mem_filterMap.1 ha
      obtain ⟨n, hn, rfl⟩ := Option.map_eq_some_iff.1 hm
      exact fun h => topoOrder_no_loop g (List.mem_reverse.1 hu) ((hpred hn hn).1 h)
  unfold makeProcessor mkProc
  simp only [Option.isSome_map]
  refine postOrder_isSome_of_sinkFirst hsink fun x hx => ?_
  obtain ⟨n, hn, rfl⟩ := List.mem_map.1 hx
  have hn' := (List.mem_filter.1 hn).1
  refine List.mem_filterMap.2
    ⟨n.name, List.mem_reverse.2 ((mem_topoOrder hac).2 (Graph.mem_names.2 ⟨n, hn', rfl⟩)), ?_⟩
  rw [Graph.node?_of_mem hwf.namesNodup hn']
  rfl

end MakeProc

section Master
variable (fold : N → N)

theorem defects_eq (d : Desc N) : defects fold d = firstStage
    [fun _ => stage1 fold d, fun _ => stage2 fold d,
     fun _ => flag (!(dgOf fold d).rgAll.acyclicB) .cyclic,
     fun _ => flag (!(deadInputs (dgOf fold d)).isEmpty) .deadInput,
     fun _ => flag (!hasLiveInput (dgOf fold d)) .emptyProc,
     fun _ => capDefects (dgOf fold d)] := rfl

theorem createGraph_error_defect {d : Desc N} {e : LoadError N} (h : createGraph fold d = .error e) :
    e.cls ∈ defects fold d ∧ culpritReal fold d e = true := by
  rcases (createGraph_eq_error_iff fold).1 h with h1 | ⟨r, h1, h2⟩
  · obtain ⟨hcls, hcul⟩ := stage1_of_error fold h1
    refine ⟨?_, hcul⟩
    rw [defects_eq]
    exact mem_firstStage_cons hcls _
  · rw [(addUnits_ok fold _ _ _ r h1).1] at h2
    obtain ⟨hcls, hcul⟩ := stage2_of_error fold h2
    refine ⟨?_, hcul⟩
    rw [defects_eq, firstStage_cons_of_nil (stage1_of_ok fold h1)]
    exact mem_firstStage_cons hcls _

theorem createGraph_ok_clean {d : Desc N} {gr : Graph N × List N} (h : createGraph fold d = .ok gr) :
    stage1 fold d = [] ∧ stage2 fold d = [] := by
  obtain ⟨r, es, h1, h2, -⟩ := (createGraph_eq_ok_iff fold).1 h
  rw [(addUnits_ok fold _ _ _ r h1).1] at h2
  exact ⟨stage1_of_ok fold h1, stage2_of_ok fold h2⟩

variable {d : Desc N} {g g2 : Graph N} {reg : List N}

theorem defects_of_created (hcg : createGraph fold d = .ok (g, reg)) : defects fold d = firstStage
    [fun _ => flag (!(dgOf fold d).rgAll.acyclicB) .cyclic,
     fun _ => flag (!(deadInputs (dgOf fold d)).isEmpty) .deadInput,
     fun _ => flag (!hasLiveInput (dgOf fold d)) .emptyProc,
     fun _ => capDefects (dgOf fold d)] := by
  obtain ⟨h1, h2⟩ := createGraph_ok_clean fold hcg
  rw [defects_eq, firstStage_cons_of_nil h1, firstStage_cons_of_nil h2]

theorem acyclicB_eq (hcg : createGraph fold d = .ok (g, reg)) : (dgOf fold d).rgAll.acyclicB = isAcyclic g :=
  (Bool.eq_iff_iff.2 (isAcyclic_iff_acyclicB (createGraph_match fold hcg) (createGraph_WF fold hcg) (dgOf_connIn fold d))).symm

theorem cyclic_defect (hcg : createGraph fold d = .ok (g, reg)) (hac : isAcyclic g = false) :
    (LoadError.cyclic : LoadError N).cls ∈ defects fold d ∧ culpritReal fold d .cyclic = true := by
  have hB : (dgOf fold d).rgAll.acyclicB = false := (acyclicB_eq fold hcg).trans hac
  refine ⟨?_, by simp only [culpritReal, hB, Bool.not_false]⟩
  rw [defects_of_created fold hcg, hB]
  exact mem_firstStage_cons (List.mem_singleton.2 rfl) _

theorem deadInput_defect (hcg : createGraph fold d = .ok (g, reg)) (hac : isAcyclic g = true) {fuel : Nat}
    {e : LoadError N} (hterm : chkTerminals g.inPorts g.outPorts fuel (rmEmpty (cleanStruct g)) = .error e) :
    e.cls ∈ defects fold d ∧ culpritReal fold d e = true := by
  obtain ⟨hwf, hm, hn, hc, ha⟩ := dg_facts fold hcg hac
  obtain ⟨p, rfl, hpi, ⟨c, hfc⟩, hnl⟩ := chkTerminals_dead hwf hac hterm
  have hdead : p ∈ deadInputs (dgOf fold d) := (mem_deadInputs_iff hn hc ha).2
    ⟨(hm.origIn hwf p).2 hpi, ⟨c, (hm.feeds hwf c p).2 hfc⟩, fun hl => hnl ((hm.live hwf p).1 hl)⟩
  refine ⟨?_, decide_eq_true hdead⟩
  rw [defects_of_created fold hcg, firstStage_cons_of_nil (by rw [acyclicB_eq fold hcg, hac]; rfl), List.isEmpty_eq_false_iff_exists_mem.2 ⟨_, hdead⟩]
  exact mem_firstStage_cons (List.mem_singleton.2 rfl) _

/-- after an accepting dead-end removal, stages 3 and 4 of `defects` are clean and stage 5 asks what `prepare` asks -/
theorem pruned_stages (T : Pruned fold d g g2 reg)
    (hterm : chkTerminals g.inPorts g.outPorts ((rmEmpty (cleanStruct g)).nodes.length + 1)
      (rmEmpty (cleanStruct g)) = .ok g2) :
    flag (!(dgOf fold d).rgAll.acyclicB) DefectClass.cyclic = [] ∧
    flag (!(deadInputs (dgOf fold d)).isEmpty) DefectClass.deadInput = [] ∧
    hasLiveInput (dgOf fold d) = g.inPorts.any (fun p => decide (p ∈ g2.names)) := by
  obtain ⟨hwf, hm, hn, hc, ha⟩ := dg_facts fold T.created T.acyclic0
  refine ⟨by rw [acyclicB_eq fold T.created, T.acyclic0]; rfl, ?_, ?_⟩
  · have hnodead : deadInputs (dgOf fold d) = [] := by
      rw [List.eq_nil_iff_forall_not_mem]
      intro p hp
      obtain ⟨hin, ⟨c, hfc⟩, hnl⟩ := (mem_deadInputs_iff hn hc ha).1 hp
      have hp1 : p ∈ (rmEmpty (cleanStruct g)).names :=
        ((rmEmpty_cleanStruct_spec hwf T.acyclic0).1 p).2 ⟨c, (hm.feeds hwf c p).1 hfc⟩
      have hp2 := chkTerminals_ok_inputs_kept hterm p ((hm.origIn hwf p).1 hin) hp1
      exact hnl ((hm.live hwf p).2 ((T.live p).1 hp2))
    rw [hnodead]
    rfl
  · rw [Bool.eq_iff_iff, hasLiveInput_iff hn hc ha, List.any_eq_true]
    constructor
    · rintro ⟨p, hin, hlive⟩
      exact ⟨p, (hm.origIn hwf p).1 hin, decide_eq_true ((T.live p).2 ((hm.live hwf p).1 hlive))⟩
    · rintro ⟨p, hpi, hp2⟩
      exact ⟨p, (hm.origIn hwf p).2 hpi, (hm.live hwf p).2 ((T.live p).1 (of_decide_eq_true hp2))⟩

theorem emptyProc_defect (hcg : createGraph fold d = .ok (g, reg)) (hac : isAcyclic g = true)
    (hterm : chkTerminals g.inPorts g.outPorts ((rmEmpty (cleanStruct g)).nodes.length + 1)
      (rmEmpty (cleanStruct g)) = .ok g2)
    (he : g.inPorts.any (fun p => decide (p ∈ g2.names)) = false) :
    (LoadError.emptyProc : LoadError N).cls ∈ defects fold d ∧ culpritReal fold d .emptyProc = true := by
  obtain ⟨h3, h4, h5⟩ := pruned_stages fold (pruned_of_terminals fold hcg hac hterm) hterm
  rw [he] at h5
  refine ⟨?_, by simp only [culpritReal, h5, Bool.not_false]⟩
  rw [defects_of_created fold hcg, firstStage_cons_of_nil h3, firstStage_cons_of_nil h4, h5]
  exact mem_firstStage_cons (List.mem_singleton.2 rfl) _

theorem caps_defect (hcg : createGraph fold d = .ok (g, reg)) (hac : isAcyclic g = true)
    (hterm : chkTerminals g.inPorts g.outPorts ((rmEmpty (cleanStruct g)).nodes.length + 1)
      (rmEmpty (cleanStruct g)) = .ok g2)
    (he : g.inPorts.any (fun p => decide (p ∈ g2.names)) = true) :
    (∀ e, chkCaps g2 = .error e → e.cls ∈ defects fold d ∧ culpritReal fold d e = true) ∧
    (chkCaps g2 = .ok () → defects fold d = []) := by
  have T := pruned_of_terminals fold hcg hac hterm
  obtain ⟨h3, h4, h5⟩ := pruned_stages fold T hterm
  rw [he] at h5
  have hwf2 := T.wf2
  have hac2 := T.acyclic2
  have hE := usable_equiv fold T
  have hflags := stage6_flags hE hwf2 hac2 (capsOf := capsIn (dgOf fold d).keptTable) (fun u c => rfl)
  have hdef : defects fold d =
      flag (hasPathLock (dgOf fold d).usable (capsIn (dgOf fold d).keptTable)) DefectClass.pathLock ++
      flag (hasBlockedCap (dgOf fold d).usable (capsIn (dgOf fold d).keptTable)) DefectClass.blockedCap := by
    rw [defects_of_created fold hcg, firstStage_cons_of_nil h3, firstStage_cons_of_nil h4,
      firstStage_cons_of_nil (by rw [h5]; rfl), firstStage_singleton]
    rfl
  rw [hdef]
  constructor
  · intro e hcaps
    constructor
    · rw [List.mem_append, mem_flag, mem_flag]
      rcases chkCaps_error_port hwf2 hac2 T.fedFromInputs hcaps with ⟨hcls, hex⟩ | ⟨hcls, hex⟩
      · exact .inl ⟨hflags.1.2 hex, hcls⟩
      · exact .inr ⟨hflags.2.2 hex, hcls⟩
    · rcases stage6_culprit hE hwf2 hac2 hcaps with ⟨u, t, c, rfl, hcul⟩ | ⟨c, p, rfl, hcul⟩
      · exact hcul
      · exact hcul
  · intro hcaps
    have hok := chkCaps_ok hwf2 hac2 hcaps
    rw [List.append_eq_nil_iff, flag_eq_nil, flag_eq_nil, ← Bool.not_eq_true, ← Bool.not_eq_true, hflags.1, hflags.2]
    exact ⟨fun ⟨p, hp, c, hc, hno⟩ => hno (hok p hp c hc).1, fun ⟨p, hp, c, hc, hno⟩ => hno (hok p hp c hc).2⟩

/-- a rejecting `_prep_proc_desc` names a listed class and a real culprit; an accepting one means that the
description has no documented defect (and its graph is fit for `_make_processor`) -/
theorem prepare_defects (hcg : createGraph fold d = .ok (g, reg)) :
    (∀ e, prepare g = .error e → e.cls ∈ defects fold d ∧ culpritReal fold d e = true) ∧
    (∀ g2, prepare g = .ok g2 → defects fold d = [] ∧ g2.WF ∧ isAcyclic g2 = true) := by
  rcases prepare_cases g with ⟨hac, hp⟩ | ⟨hac, ⟨e, ht, hp⟩ | ⟨g2, ht, ⟨he, hp⟩ | ⟨he, ⟨e, hc, hp⟩ | ⟨hc, hp⟩⟩⟩⟩
  all_goals rw [hp]
  all_goals refine ⟨fun e' h => ?_, fun g2' h => ?_⟩
  all_goals cases h
  · exact cyclic_defect fold hcg hac
  · exact deadInput_defect fold hcg hac ht
  · exact emptyProc_defect fold hcg hac ht he
  · exact (caps_defect fold hcg hac ht he).1 e hc
  · have L := livePart_of_terminals (createGraph_WF fold hcg) hac ht
    exact ⟨(caps_defect fold hcg hac ht he).2 hc, L.wf2, L.acyclic2⟩

variable [LT N] [DecidableRel (α := N) (· < ·)]

/-- either the description is accepted and has no documented defect, or it is rejected with the class of a defect
present at the first defective stage and with a real culprit -/
theorem load_defects (d : Desc N) :
    (∀ p, load fold d = .ok p → defects fold d = []) ∧
    (∀ e, load fold d = .error e → e.cls ∈ defects fold d ∧ culpritReal fold d e = true) := by
  rcases load_cases fold d with ⟨e, hc, hl⟩ | ⟨g0, reg, hc, ⟨e, hp, hl⟩ | ⟨g2, hp, ⟨hm, hl⟩ | ⟨p, hm, hl⟩⟩⟩
  all_goals rw [hl]
  all_goals refine ⟨fun p' h => ?_, fun e' h => ?_⟩
  all_goals cases h
  · exact createGraph_error_defect fold hc
  · exact (prepare_defects fold hc).1 e hp
  · obtain ⟨-, hwf2, hac2⟩ := (prepare_defects fold hc).2 g2 hp
    have := makeProcessor_isSome fold reg hwf2 hac2
    rw [hm] at this
    cases this
  · exact ((prepare_defects fold hc).2 g2 hp).1

end Master

end LoaderDefects
end Loader
end ProcSim
