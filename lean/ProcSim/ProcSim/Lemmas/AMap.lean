import ProcSim.Model.Basic
/-!
# `AMap` algebra

Laws of the association-list map of `Model/Basic.lean` beyond `get?_set_eq` / `get?_set_ne`: the `cons` equations, keys,
binding versus membership, and what `set` does to the key list. Core Lean only; every proof file that reasons about an
`AMap` (records, access queues, the renderer's dicts, the ISA registries) builds on this one.
-/
namespace ProcSim

/- `AMap K V` is a plain, non-reducible `def` for `List (K × V)`, so `∈`, `::`, `induction` and the `List` lemmas do
not apply to an `AMap` by themselves. The line below lets unification see through the definition, in this file only;
every proof file that takes an `AMap` apart as a list repeats it. Statements that need `∈` or a literal list say so
with `AMap.toList` or an ascription `([] : List (K × V))`. -/
attribute [local implicit_reducible] AMap

namespace AMap
variable {K V : Type}

def toList (m : AMap K V) : List (K × V) := m

@[simp] theorem toList_nil : toList ([] : List (K × V)) = [] := rfl

@[simp] theorem toList_cons (p : K × V) (m : List (K × V)) : toList (p :: m : List (K × V)) = p :: toList m := rfl

@[simp] theorem keys_nil : keys ([] : List (K × V)) = [] := rfl

@[simp] theorem keys_cons (p : K × V) (m : List (K × V)) : keys (p :: m : List (K × V)) = p.1 :: keys m := rfl

variable [DecidableEq K]

theorem get?_cons (k' : K) (v : V) (m : List (K × V)) (k : K) :
    get? ((k', v) :: m : List (K × V)) k = if k' = k then some v else get? m k := rfl

theorem set_cons (k' : K) (v' : V) (m : List (K × V)) (k : K) (v : V) :
    set ((k', v') :: m : List (K × V)) k v = if k' = k then (k, v) :: m else (k', v') :: set m k v := rfl

theorem get?_eq_none_iff {m : AMap K V} {k : K} : m.get? k = none ↔ k ∉ m.keys := by
  induction m with
  | nil => simp
  | cons p m ih =>
    obtain ⟨k', v'⟩ := p
    by_cases h : k' = k
    · simp [get?_cons, h]
    · have h' : ¬ k = k' := fun e => h e.symm
      simp [get?_cons, h, h', ih]

theorem mem_keys_of_get?_eq_some {m : AMap K V} {k : K} {v : V} (h : m.get? k = some v) : k ∈ m.keys := by
  by_cases hk : k ∈ m.keys
  · exact hk
  · rw [get?_eq_none_iff.2 hk] at h; cases h

theorem mem_of_get?_eq_some {m : AMap K V} {k : K} {v : V} (h : m.get? k = some v) :
    (k, v) ∈ m.toList := by
  induction m with
  | nil => cases h
  | cons p m ih =>
    obtain ⟨k', v'⟩ := p
    by_cases hk : k' = k
    · simp only [get?_cons, hk, if_true, Option.some.injEq] at h
      subst hk; subst h; exact List.mem_cons_self
    · simp only [get?_cons, hk, if_false] at h
      exact List.mem_cons_of_mem _ (ih h)

theorem get?_of_mem {m : AMap K V} {k : K} {v : V} (hn : m.keys.Nodup) (h : (k, v) ∈ m.toList) :
    m.get? k = some v := by
  induction m with
  | nil => cases h
  | cons p m ih =>
    obtain ⟨k', v'⟩ := p
    simp only [keys_cons, List.nodup_cons] at hn
    rcases List.mem_cons.1 h with e | h'
    · cases e; simp [get?_cons]
    · have hk : k ∈ keys m := List.mem_map.2 ⟨(k, v), h', rfl⟩
      have : ¬ k' = k := fun e => hn.1 (e ▸ hk)
      simp only [get?_cons, this, if_false]
      exact ih hn.2 h'

theorem mem_keys_set {m : AMap K V} {k k' : K} {v : V} : k' ∈ (m.set k v).keys ↔ k' = k ∨ k' ∈ m.keys := by
  induction m with
  | nil => simp [set, keys]
  | cons p m ih =>
    obtain ⟨k₀, v₀⟩ := p
    by_cases h : k₀ = k
    · subst h; simp [set_cons]
    · rw [set_cons, if_neg h, keys_cons, keys_cons, List.mem_cons, List.mem_cons, ih, or_left_comm]

theorem keys_set (m : AMap K V) (k : K) (v : V) :
    (m.set k v).keys = if k ∈ m.keys then m.keys else m.keys ++ [k] := by
  induction m with
  | nil => simp [set, keys]
  | cons p m ih =>
    obtain ⟨k₀, v₀⟩ := p
    by_cases h : k₀ = k
    · subst h; simp [set_cons]
    · have h' : ¬ k = k₀ := fun e => h e.symm
      simp only [set_cons, h, if_false, keys_cons, ih, List.mem_cons, h', false_or]
      split <;> simp

theorem keys_set_nodup {m : AMap K V} (k : K) (v : V) (hn : m.keys.Nodup) : (m.set k v).keys.Nodup := by
  rw [keys_set]
  split
  · exact hn
  · next h =>
    rw [List.nodup_append]
    refine ⟨hn, by simp, ?_⟩
    intro a ha b hb
    simp only [List.mem_singleton] at hb
    subst hb
    exact fun e => h (e ▸ ha)

theorem get?_set (m : AMap K V) (k k' : K) (v : V) :
    (m.set k v).get? k' = if k = k' then some v else m.get? k' := by
  split
  · next h => subst h; exact get?_set_eq m k v
  · next h => exact get?_set_ne m v h

theorem set_of_get?_eq_none {m : List (K × V)} {k : K} (v : V) (h : get? m k = none) :
    set m k v = m ++ [(k, v)] := by
  induction m with
  | nil => rfl
  | cons p m ih =>
    obtain ⟨k', v'⟩ := p
    rw [get?_cons] at h
    split at h
    · cases h
    · next hk => rw [set_cons, if_neg hk, ih h]; rfl

end AMap

end ProcSim
