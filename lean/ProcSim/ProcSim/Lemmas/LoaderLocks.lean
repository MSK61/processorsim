import ProcSim.Lemmas.LoaderRoutes
/-!
# Correctness of the per-capability checks of the loader (`chk_caps`)

The working graph `g : Graph N` of the model is read as a capability graph `rgOfGraph g : Spec.RG N` (units,
connections, supported capabilities, locks), and the dynamic programs of `Model/Loader.lean` are shown to compute what
the declarative notions of `Spec/Loader.lean` say.  Both passes visit the units supporting a capability in an order
that lists every capability successor of a unit before the unit (`SuccFirst`, a recursion along the list with the
units already visited; a post-order of the whole graph, `IsPostOrder`, yields one for every capability by filtering),
so each unit finds the answers for its capability successors already stored:
`lockPass` stores the lock counts common to all maximal capability routes from a unit and fails exactly when some
maximal route carries two locks of a type or two maximal routes disagree (`Bad`); `reachPass` collects the units from
which an output is reachable through supporting units.  `chkCapList` runs them for every (capability, supporting input
port) pair of `capUnits`.
-/

namespace ProcSim
namespace Loader
namespace LoaderLocks
open Spec LoaderRoutes

variable {N : Type} [DecidableEq N]

def nodeLock (g : Graph N) (t : LockType) (u : N) : Bool :=
  match g.node? u with
  | some n => (match t with | .read => n.rd | .write => n.wr)
  | none => false

def rgOfGraph (g : Graph N) : RG N :=
  ⟨g.names, fun a b => decide ((a, b) ∈ g.edges), fun u c => decide (c ∈ g.capsOf u), nodeLock g⟩

/-- component of a lock-count pair -/
def countOf : LockType → Nat × Nat → Nat
  | .read, p => p.1
  | .write, p => p.2

@[simp] theorem rgOfGraph_conn {g : Graph N} {a b : N} : (rgOfGraph g).conn a b = true ↔ (a, b) ∈ g.edges :=
  decide_eq_true_iff

@[simp] theorem rgOfGraph_sup {g : Graph N} {u c : N} : (rgOfGraph g).sup u c = true ↔ c ∈ g.capsOf u :=
  decide_eq_true_iff

theorem walk_rgOfGraph {g : Graph N} {r : List N} :
    (rgOfGraph g).Walk r ↔ WalkR (fun a b => (a, b) ∈ g.edges) r := by
  unfold RG.Walk
  constructor
  · exact WalkR.mono (fun _ _ h => rgOfGraph_conn.1 h)
  · exact WalkR.mono (fun _ _ h => rgOfGraph_conn.2 h)

theorem connIn_rgOfGraph {g : Graph N} (hwf : g.WF) : ConnIn (rgOfGraph g) :=
  fun _ _ h => (hwf.edgesIn _ (rgOfGraph_conn.1 h)).2

theorem isAcyclic_iff_acyclic {g : Graph N} (hwf : g.WF) : isAcyclic g = true ↔ (rgOfGraph g).Acyclic :=
  ⟨fun h ⟨u, l, hw⟩ => isAcyclic_no_closed_walk h hwf.edgesIn ⟨u, l, walk_rgOfGraph.1 hw⟩,
   fun ha => isAcyclic_of_no_closed_walk hwf.namesNodup fun ⟨u, l, hw⟩ => ha ⟨u, l, walk_rgOfGraph.2 hw⟩⟩

theorem mem_names_of_capsOf {g : Graph N} {u c : N} (h : c ∈ g.capsOf u) : u ∈ g.names :=
  Classical.byContradiction fun hn => by
    rw [Graph.capsOf_of_not_mem hn] at h
    cases h

theorem mem_preds {g : Graph N} {u v : N} : v ∈ g.preds u ↔ (v, u) ∈ g.edges := Graph.mem_preds

theorem mem_capSuccs {g : Graph N} {cap u v : N} :
    v ∈ capSuccs g cap u ↔ (u, v) ∈ g.edges ∧ cap ∈ g.capsOf v := by
  unfold capSuccs
  simp [List.mem_filter, Graph.mem_succs]

set_option linter.unusedSectionVars false in
theorem walkR_tail {R : N → N → Prop} {a : N} {l : List N} (h : WalkR R (a :: l)) : WalkR R l := Loader.WalkR.tail h

section Routes
variable (R : RG N)

set_option linter.unusedSectionVars false in
theorem isMaxRoute_ne_nil {c : N} {r : List N} (h : R.IsMaxRoute c r) : r ≠ [] := h.1.1

end Routes

omit [DecidableEq N] in
theorem updLocks_some_eq (start : N) (t : LockType) (cap : N) : ∀ (vals : List Nat) (o : Nat),
    updLocks start t cap vals (some o) =
      if vals.all (fun v => v == o) then .ok (some o) else .error (.pathLock start t cap)
  | [], o => by simp [updLocks]
  | v :: vs, o => by
    simp only [updLocks]
    by_cases h : v = o
    · subst h
      rw [updLocks_some_eq start t cap vs v]
      simp
    · simp [h]

def ownLock (b : Bool) : Nat := if b then 1 else 0

theorem ownLock_le (b : Bool) : ownLock b ≤ 1 := by cases b <;> simp [ownLock]

def AllEqual (vals : List Nat) : Prop := ∀ v ∈ vals, ∀ w ∈ vals, v = w

omit [DecidableEq N] in
theorem AllEqual.headD_eq {vals : List Nat} (h : AllEqual vals) {x : Nat} (hx : x ∈ vals) (d : Nat := 0) :
    vals.headD d = x := by
  cases vals with
  | nil => cases hx
  | cons a l => exact h a List.mem_cons_self x hx

omit [DecidableEq N] in
theorem exists_ne_of_not_allEqual {vals : List Nat} (h : ¬ AllEqual vals) : ∃ a ∈ vals, ∃ b ∈ vals, a ≠ b := by
  apply Classical.byContradiction
  intro hcon
  exact h fun a ha b hb => Classical.byContradiction fun hne => hcon ⟨a, ha, b, hb, hne⟩

omit [DecidableEq N] in
theorem allEqual_cons {v : Nat} {vs : List Nat} : AllEqual (v :: vs) ↔ ∀ w ∈ vs, w = v := by
  constructor
  · intro h w hw
    exact h w (List.mem_cons_of_mem _ hw) v List.mem_cons_self
  · intro h a ha b hb
    have key : ∀ x ∈ v :: vs, x = v := fun x hx => (List.mem_cons.1 hx).elim id (h x)
    rw [key a ha, key b hb]

omit [DecidableEq N] in
/-- the second half of `calcLock`, once the successors' common count `tail` has been found -/
theorem calcLock_of_tail {start : N} {t : LockType} {cap : N} {b : Bool} {vals : List Nat} {tail : Option Nat}
    (h : updLocks start t cap vals none = .ok tail) :
    calcLock start t cap b vals =
      if 1 < ownLock b + tail.getD 0 then .error (.pathLock start t cap) else .ok (ownLock b + tail.getD 0) := by
  unfold calcLock
  rw [h]
  rfl

omit [DecidableEq N] in
/-- `calcLock` succeeds iff the successors' counts are all equal and the unit's own lock does not come on top of a
locked tail; the count is then the unit's own lock plus that of the first successor -/
theorem calcLock_spec (start : N) (t : LockType) (cap : N) (b : Bool) (vals : List Nat) :
    (AllEqual vals ∧ ownLock b + vals.headD 0 ≤ 1 ∧ calcLock start t cap b vals = .ok (ownLock b + vals.headD 0)) ∨
    ((¬ AllEqual vals ∨ 1 < ownLock b + vals.headD 0) ∧ calcLock start t cap b vals = .error (.pathLock start t cap)) := by
  cases vals with
  | nil =>
    have hle : ownLock b + 0 ≤ 1 := ownLock_le b
    exact .inl ⟨fun _ hv => (nomatch hv), hle, (calcLock_of_tail (tail := none) rfl).trans (if_neg (Nat.not_lt.2 hle))⟩
  | cons v vs =>
    rw [allEqual_cons, List.headD_cons]
    have htail : updLocks start t cap (v :: vs) none =
        if vs.all (fun w => w == v) then .ok (some v) else .error (.pathLock start t cap) := by
      rw [updLocks]
      exact updLocks_some_eq start t cap vs v
    by_cases hall : ∀ w ∈ vs, w = v
    · rw [if_pos (by simpa using hall)] at htail
      rw [calcLock_of_tail htail]
      by_cases hp : ownLock b + v ≤ 1
      · exact .inl ⟨hall, hp, if_neg (Nat.not_lt.2 hp)⟩
      · exact .inr ⟨.inr (Nat.lt_of_not_le hp), if_pos (Nat.lt_of_not_le hp)⟩
    · rw [if_neg (by simpa using hall)] at htail
      refine .inr ⟨.inl hall, ?_⟩
      unfold calcLock
      rw [htail]

section Locks
variable (g : Graph N) (cap : N)

def MaxRouteFrom (u : N) (r : List N) : Prop := (rgOfGraph g).IsMaxRoute cap r ∧ r.head? = some u

theorem capSuccs_eq_nil_iff {u : N} :
    capSuccs g cap u = [] ↔ ∀ v ∈ (rgOfGraph g).names, ¬ ((rgOfGraph g).conn u v = true ∧ (rgOfGraph g).sup v cap = true) := by
  rw [List.eq_nil_iff_forall_not_mem]
  simp only [mem_capSuccs, rgOfGraph_conn, rgOfGraph_sup]
  constructor
  · intro h v _ hv
    exact h v hv
  · intro h v hv
    exact h v (mem_names_of_capsOf hv.2) hv

variable {g cap} in
theorem isRoute_graph_singleton {u : N} : (rgOfGraph g).IsRoute cap [u] ↔ cap ∈ g.capsOf u :=
  (isRoute_singleton _).trans rgOfGraph_sup

variable {g cap} in
theorem isRoute_graph_cons {u v : N} {l : List N} :
    (rgOfGraph g).IsRoute cap (u :: v :: l) ↔
      cap ∈ g.capsOf u ∧ v ∈ capSuccs g cap u ∧ (rgOfGraph g).IsRoute cap (v :: l) := by
  rw [isRoute_cons_cons, rgOfGraph_sup, rgOfGraph_conn, mem_capSuccs]
  constructor
  · rintro ⟨h1, h2, h3⟩
    exact ⟨h1, ⟨h2, rgOfGraph_sup.1 (h3.2.1 v List.mem_cons_self)⟩, h3⟩
  · rintro ⟨h1, h2, h3⟩
    exact ⟨h1, h2.1, h3⟩

theorem maxRouteFrom_iff {u : N} {r : List N} :
    MaxRouteFrom g cap u r ↔ cap ∈ g.capsOf u ∧
      ((r = [u] ∧ capSuccs g cap u = []) ∨
       ∃ v r', r = u :: r' ∧ v ∈ capSuccs g cap u ∧ MaxRouteFrom g cap v r') := by
  unfold MaxRouteFrom
  match r with
  | [] =>
    constructor
    · rintro ⟨_, h⟩
      cases h
    · rintro ⟨_, ⟨h, _⟩ | ⟨_, _, h, _⟩⟩
      · cases h
      · cases h
  | [a] =>
    rw [isMaxRoute_singleton, ← capSuccs_eq_nil_iff, rgOfGraph_sup]
    constructor
    · rintro ⟨⟨h1, h2⟩, h3⟩
      cases h3
      exact ⟨h1, Or.inl ⟨rfl, h2⟩⟩
    · rintro ⟨h1, ⟨h, h2⟩ | ⟨v, r', h, _, hr⟩⟩
      · cases h
        exact ⟨⟨h1, h2⟩, rfl⟩
      · cases h
        exact absurd rfl hr.1.1.1
  | a :: b :: l =>
    rw [isMaxRoute_cons_cons, rgOfGraph_sup, rgOfGraph_conn]
    constructor
    · rintro ⟨⟨h1, h2, h3⟩, h4⟩
      cases h4
      exact ⟨h1, Or.inr ⟨b, b :: l, rfl, (mem_capSuccs).2 ⟨h2, rgOfGraph_sup.1 (h3.1.2.1 b List.mem_cons_self)⟩,
        h3, rfl⟩⟩
    · rintro ⟨h1, ⟨h, _⟩ | ⟨v, r', h, hv, hr⟩⟩
      · cases h
      · cases h
        cases hr.2
        exact ⟨⟨h1, (mem_capSuccs.1 hv).1, hr.1⟩, rfl⟩

/-- `L` holds, for `u`, the lock counts common to all maximal routes from `u` (and there is such a route) -/
def CountsCorrect (L : Locks N) (u : N) : Prop :=
  (∃ r, MaxRouteFrom g cap u r) ∧
  ∀ t, countOf t (Locks.get L u) ≤ 1 ∧ ∀ r, MaxRouteFrom g cap u r → (rgOfGraph g).lockCount t r = countOf t (Locks.get L u)

/-- the defect `PathLockError(start := u, lock_type := t, capability := cap)` stands for -/
def Bad (t : LockType) (u : N) : Prop :=
  (∃ r, MaxRouteFrom g cap u r ∧ 2 ≤ (rgOfGraph g).lockCount t r) ∨
  (∃ r1 r2, MaxRouteFrom g cap u r1 ∧ MaxRouteFrom g cap u r2 ∧
    (rgOfGraph g).lockCount t r1 ≠ (rgOfGraph g).lockCount t r2)

theorem lockCount_nil (t : LockType) : (rgOfGraph g).lockCount t [] = 0 := rfl

theorem calcLock_step {L : Locks N} {u : N} (t : LockType) (hu : cap ∈ g.capsOf u)
    (hs : ∀ v ∈ capSuccs g cap u, CountsCorrect g cap L v) :
    (∃ k, calcLock u t cap (nodeLock g t u) ((capSuccs g cap u).map (fun v => countOf t (Locks.get L v))) = .ok k ∧
        k ≤ 1 ∧ ∀ r, MaxRouteFrom g cap u r → (rgOfGraph g).lockCount t r = k) ∨
    (calcLock u t cap (nodeLock g t u) ((capSuccs g cap u).map (fun v => countOf t (Locks.get L v))) =
        .error (.pathLock u t cap) ∧ Bad g cap t u) := by
  -- a maximal route from `u` is `u` alone or `u` before a maximal route from a capability successor
  -- (`maxRouteFrom_iff`), whose count is the one stored for that successor (`hs`)
  have hlk : ∀ r, (rgOfGraph g).lockCount t (u :: r) = ownLock (nodeLock g t u) + (rgOfGraph g).lockCount t r := by
    intro r; rw [lockCount_cons]; rfl
  -- so every capability successor gives a maximal route from `u` that counts `u`'s own lock on top of its stored count
  have hext : ∀ v ∈ capSuccs g cap u, ∃ r, MaxRouteFrom g cap u r ∧
      (rgOfGraph g).lockCount t r = ownLock (nodeLock g t u) + countOf t (Locks.get L v) := by
    intro v hv
    obtain ⟨rv, hrv⟩ := (hs v hv).1
    refine ⟨u :: rv, (maxRouteFrom_iff g cap).2 ⟨hu, Or.inr ⟨v, rv, rfl, hv, hrv⟩⟩, ?_⟩
    rw [hlk, ((hs v hv).2 t).2 rv hrv]
  rcases calcLock_spec u t cap (nodeLock g t u) ((capSuccs g cap u).map (fun v => countOf t (Locks.get L v))) with
    ⟨hag, hle, hok⟩ | ⟨hbad, herr⟩
  · left
    refine ⟨_, hok, hle, ?_⟩
    intro r hr
    rw [maxRouteFrom_iff] at hr
    rcases hr.2 with ⟨rfl, hnil⟩ | ⟨v, r', rfl, hv, hr'⟩
    · rw [hlk, hnil]; rfl
    · rw [hlk, ((hs v hv).2 t).2 r' hr', hag.headD_eq (List.mem_map.2 ⟨v, hv, rfl⟩)]
  · right
    refine ⟨herr, ?_⟩
    rcases hbad with hna | hgt
    · -- two successors with different counts
      obtain ⟨a, ha, b, hb, hne⟩ := exists_ne_of_not_allEqual hna
      obtain ⟨v, hv, rfl⟩ := List.mem_map.1 ha
      obtain ⟨w, hw, rfl⟩ := List.mem_map.1 hb
      obtain ⟨r1, hr1, hc1⟩ := hext v hv
      obtain ⟨r2, hr2, hc2⟩ := hext w hw
      refine .inr ⟨r1, r2, hr1, hr2, ?_⟩
      rw [hc1, hc2]
      exact fun h => hne (Nat.add_left_cancel h)
    · -- the own lock on top of a locked tail
      cases hl : capSuccs g cap u with
      | nil =>
        rw [hl] at hgt
        exact absurd hgt (Nat.not_lt.2 (ownLock_le (nodeLock g t u)))
      | cons v l =>
        have hv : v ∈ capSuccs g cap u := by rw [hl]; exact List.mem_cons_self
        rw [hl] at hgt
        obtain ⟨r, hr, hc⟩ := hext v hv
        refine .inl ⟨r, hr, ?_⟩
        rw [hc]
        exact hgt

theorem exists_route_step {L : Locks N} {u : N} (hu : cap ∈ g.capsOf u)
    (hs : ∀ v ∈ capSuccs g cap u, CountsCorrect g cap L v) : ∃ r, MaxRouteFrom g cap u r := by
  cases hl : capSuccs g cap u with
  | nil => exact ⟨[u], by rw [maxRouteFrom_iff]; exact ⟨hu, Or.inl ⟨rfl, hl⟩⟩⟩
  | cons v l =>
    have hv : v ∈ capSuccs g cap u := by rw [hl]; exact List.mem_cons_self
    obtain ⟨rv, hrv⟩ := (hs v hv).1
    exact ⟨u :: rv, by rw [maxRouteFrom_iff]; exact ⟨hu, Or.inr ⟨v, rv, rfl, hv, hrv⟩⟩⟩

theorem locks_get_set_eq (L : Locks N) (u : N) (x : Nat × Nat) : Locks.get (AMap.set L u x) u = x := by
  unfold Locks.get; rw [AMap.get?_set_eq]; rfl

theorem locks_get_set_ne (L : Locks N) {u v : N} (x : Nat × Nat) (h : u ≠ v) :
    Locks.get (AMap.set L u x) v = Locks.get L v := by
  unfold Locks.get; rw [AMap.get?_set_ne _ _ h]

theorem chkPathLocks_eq (L : Locks N) (u : N) : chkPathLocks g cap L u =
    match calcLock u .read cap (nodeLock g .read u) ((capSuccs g cap u).map (fun v => countOf .read (Locks.get L v))) with
    | .error e => .error e
    | .ok r =>
      match calcLock u .write cap (nodeLock g .write u) ((capSuccs g cap u).map (fun v => countOf .write (Locks.get L v))) with
      | .error e => .error e
      | .ok w => .ok (AMap.set L u (r, w)) := by
  unfold chkPathLocks nodeLock
  simp only [List.map_map]
  cases g.node? u <;> rfl

/-- one iteration of the `_chk_multilock` loop -/
theorem chkPathLocks_step {L : Locks N} {u : N} (hu : cap ∈ g.capsOf u)
    (hs : ∀ v ∈ capSuccs g cap u, CountsCorrect g cap L v) :
    (∃ x, chkPathLocks g cap L u = .ok (AMap.set L u x) ∧ CountsCorrect g cap (AMap.set L u x) u) ∨
    (∃ t, chkPathLocks g cap L u = .error (.pathLock u t cap) ∧ Bad g cap t u) := by
  rw [chkPathLocks_eq]
  rcases calcLock_step g cap .read hu hs with ⟨kr, hokr, hler, hrr⟩ | ⟨herr, hbad⟩
  · rw [hokr]
    rcases calcLock_step g cap .write hu hs with ⟨kw, hokw, hlew, hrw⟩ | ⟨herr, hbad⟩
    · rw [hokw]
      left
      refine ⟨(kr, kw), rfl, exists_route_step g cap hu hs, ?_⟩
      intro t
      rw [locks_get_set_eq]
      cases t
      · exact ⟨hler, hrr⟩
      · exact ⟨hlew, hrw⟩
    · rw [herr]
      right
      exact ⟨.write, rfl, hbad⟩
  · rw [herr]
    right
    exact ⟨.read, rfl, hbad⟩

/-- `rest` is processed successors-first: the capability successors of every unit were processed before it
(`done` = the units already processed) -/
def SuccFirst (succ : N → List N) : List N → List N → Prop
  | _, [] => True
  | done, u :: us => (∀ v ∈ succ u, v ∈ done) ∧ SuccFirst succ (u :: done) us

theorem countsCorrect_set_of_ne {L : Locks N} {u v : N} (x : Nat × Nat) (h : u ≠ v) (hc : CountsCorrect g cap L v) :
    CountsCorrect g cap (AMap.set L u x) v := by
  unfold CountsCorrect at *
  rw [locks_get_set_ne L x h]
  exact hc

theorem lockPass_inv : ∀ (rest done : List N) (L : Locks N),
    (∀ u ∈ done, CountsCorrect g cap L u) → SuccFirst (capSuccs g cap) done rest → (∀ u ∈ rest, cap ∈ g.capsOf u) →
    (∃ L', lockPass g cap rest L = .ok L' ∧ ∀ u, u ∈ done ∨ u ∈ rest → CountsCorrect g cap L' u) ∨
    (∃ u t, u ∈ rest ∧ lockPass g cap rest L = .error (.pathLock u t cap) ∧ Bad g cap t u)
  | [], done, L, hd, _, _ => by
    left
    exact ⟨L, rfl, fun u hu => hd u (by simpa using hu)⟩
  | u :: us, done, L, hd, hsf, hsup => by
    have hu := hsup u List.mem_cons_self
    have hs : ∀ v ∈ capSuccs g cap u, CountsCorrect g cap L v := fun v hv => hd v (hsf.1 v hv)
    rcases chkPathLocks_step g cap hu hs with ⟨x, hok, hcor⟩ | ⟨t, herr, hbad⟩
    · have hd' : ∀ w ∈ u :: done, CountsCorrect g cap (AMap.set L u x) w := by
        intro w hw
        by_cases hwu : u = w
        · subst hwu; exact hcor
        · rcases List.mem_cons.1 hw with h | h
          · exact absurd h.symm hwu
          · exact countsCorrect_set_of_ne g cap x hwu (hd w h)
      rcases lockPass_inv us (u :: done) (AMap.set L u x) hd' hsf.2
          (fun w hw => hsup w (List.mem_cons_of_mem _ hw)) with ⟨L', hok', hall⟩ | ⟨w, t, hw, herr, hbad⟩
      · left
        refine ⟨L', ?_, ?_⟩
        · simp only [lockPass, hok]; exact hok'
        · intro w hw
          apply hall
          rcases hw with h | h
          · exact Or.inl (List.mem_cons_of_mem _ h)
          · rcases List.mem_cons.1 h with h | h
            · exact Or.inl (h ▸ List.mem_cons_self)
            · exact Or.inr h
      · right
        refine ⟨w, t, List.mem_cons_of_mem _ hw, ?_, hbad⟩
        simp only [lockPass, hok]; exact herr
    · right
      refine ⟨u, t, List.mem_cons_self, ?_, hbad⟩
      simp only [lockPass, herr]

/-- **`lockPass`, accepting run**: over a successors-first order of supporting units the pass stores for every listed
unit the lock counts (each ≤ 1) that *every* maximal `cap`-route from the unit has -/
theorem lockPass_ok {pc : List N} {L : Locks N} (hsf : SuccFirst (capSuccs g cap) [] pc)
    (hsup : ∀ u ∈ pc, cap ∈ g.capsOf u) (h : lockPass g cap pc [] = .ok L) :
    ∀ u ∈ pc, CountsCorrect g cap L u := by
  rcases lockPass_inv g cap pc [] [] (by intro u hu; cases hu) hsf hsup with ⟨L', hok, hall⟩ | ⟨u, t, _, herr, _⟩
  · rw [h] at hok
    cases hok
    exact fun u hu => hall u (Or.inr hu)
  · rw [h] at herr; cases herr

/-- **`lockPass`, rejecting run**: the error names a listed unit with a maximal route carrying two locks of the
named type, or with two maximal routes carrying different numbers of them -/
theorem lockPass_error {pc : List N} {e : LoadError N} (hsf : SuccFirst (capSuccs g cap) [] pc)
    (hsup : ∀ u ∈ pc, cap ∈ g.capsOf u) (h : lockPass g cap pc [] = .error e) :
    ∃ u t, u ∈ pc ∧ e = .pathLock u t cap ∧ Bad g cap t u := by
  rcases lockPass_inv g cap pc [] [] (by intro u hu; cases hu) hsf hsup with ⟨L', hok, _⟩ | ⟨u, t, hu, herr, hbad⟩
  · rw [h] at hok; cases hok
  · rw [h] at herr
    cases herr
    exact ⟨u, t, hu, rfl, hbad⟩

theorem not_bad_of_countsCorrect {L : Locks N} {u : N} (hc : CountsCorrect g cap L u) (t : LockType) : ¬ Bad g cap t u := by
  rintro (⟨r, hr, h2⟩ | ⟨r1, r2, h1, h2, hne⟩)
  · have := (hc.2 t).2 r hr
    have := (hc.2 t).1
    omega
  · exact hne (((hc.2 t).2 r1 h1).trans ((hc.2 t).2 r2 h2).symm)

theorem lockPass_isOk_iff {pc : List N} (hsf : SuccFirst (capSuccs g cap) [] pc)
    (hsup : ∀ u ∈ pc, cap ∈ g.capsOf u) :
    (∃ L, lockPass g cap pc [] = .ok L) ↔ ∀ u ∈ pc, ∀ t, ¬ Bad g cap t u := by
  constructor
  · rintro ⟨L, h⟩ u hu t
    exact not_bad_of_countsCorrect g cap (lockPass_ok g cap hsf hsup h u hu) t
  · intro hno
    cases h : lockPass g cap pc [] with
    | ok L => exact ⟨L, rfl⟩
    | error e =>
      obtain ⟨u, t, hu, _, hbad⟩ := lockPass_error g cap hsf hsup h
      exact absurd hbad (hno u hu t)

end Locks

theorem chkInLocks_cases (cap : N) (L : Locks N) : ∀ ports : List N,
    (chkInLocks cap L ports = .ok () ∧ ∀ p ∈ ports, ∀ t, countOf t (Locks.get L p) ≠ 0) ∨
    (∃ p t, p ∈ ports ∧ chkInLocks cap L ports = .error (.pathLock p t cap) ∧ countOf t (Locks.get L p) = 0)
  | [] => Or.inl ⟨rfl, fun _ h => nomatch h⟩
  | p :: ps => by
    simp only [chkInLocks]
    by_cases h1 : (Locks.get L p).1 = 0
    · rw [if_pos h1]
      exact Or.inr ⟨p, .read, List.mem_cons_self, rfl, h1⟩
    · by_cases h2 : (Locks.get L p).2 = 0
      · rw [if_neg h1, if_pos h2]
        exact Or.inr ⟨p, .write, List.mem_cons_self, rfl, h2⟩
      · rw [if_neg h1, if_neg h2]
        rcases chkInLocks_cases cap L ps with ⟨hok, hall⟩ | ⟨q, t, hq, herr, h0⟩
        · refine Or.inl ⟨hok, List.forall_mem_cons.2 ⟨fun t => ?_, hall⟩⟩
          cases t
          · exact h1
          · exact h2
        · exact Or.inr ⟨q, t, List.mem_cons_of_mem _ hq, herr, h0⟩

section Reach
variable (g : Graph N) (cap : N) (outs : List N)

/-- some `cap`-route from `u` ends in a unit of `outs` -/
def ReachIn (u : N) : Prop :=
  ∃ r, (rgOfGraph g).IsRoute cap r ∧ r.head? = some u ∧ ∃ o, r.getLast? = some o ∧ o ∈ outs

theorem reachIn_iff {u : N} :
    ReachIn g cap outs u ↔ cap ∈ g.capsOf u ∧ (u ∈ outs ∨ ∃ v ∈ capSuccs g cap u, ReachIn g cap outs v) := by
  constructor
  · rintro ⟨r, hr, hh, o, hl, ho⟩
    match r with
    | [a] =>
      cases hh
      cases hl
      exact ⟨isRoute_graph_singleton.1 hr, Or.inl ho⟩
    | a :: b :: l =>
      cases hh
      rw [isRoute_graph_cons] at hr
      rw [List.getLast?_cons_cons] at hl
      exact ⟨hr.1, Or.inr ⟨b, hr.2.1, b :: l, hr.2.2, rfl, o, hl, ho⟩⟩
  · rintro ⟨hu, ho | ⟨v, hv, r, hr, hh, o, hl, ho⟩⟩
    · exact ⟨[u], isRoute_graph_singleton.2 hu, rfl, u, rfl, ho⟩
    · match r with
      | a :: l =>
        cases hh
        exact ⟨_, isRoute_graph_cons.2 ⟨hu, hv, hr⟩, rfl, o, List.getLast?_cons_cons.trans hl, ho⟩

theorem reachPass_inv : ∀ (rest done acc : List N),
    (∀ v, v ∈ acc ↔ v ∈ done ∧ ReachIn g cap outs v) →
    SuccFirst (capSuccs g cap) done rest → (∀ u ∈ rest, cap ∈ g.capsOf u) →
    ∀ v, v ∈ reachPass g cap outs rest acc ↔ (v ∈ done ∨ v ∈ rest) ∧ ReachIn g cap outs v
  | [], done, acc, hacc, _, _ => by
    intro v
    rw [reachPass, hacc v, or_iff_left List.not_mem_nil]
  | u :: us, done, acc, hacc, hsf, hsup => by
    have hu := hsup u List.mem_cons_self
    have hcond : (decide (u ∈ outs) || (capSuccs g cap u).any (fun v => decide (v ∈ acc))) = true ↔
        ReachIn g cap outs u := by
      rw [reachIn_iff]
      simp only [Bool.or_eq_true, decide_eq_true_eq, List.any_eq_true]
      constructor
      · rintro (h | ⟨v, hv, hva⟩)
        · exact ⟨hu, Or.inl h⟩
        · exact ⟨hu, Or.inr ⟨v, hv, ((hacc v).1 hva).2⟩⟩
      · rintro ⟨_, (h | ⟨v, hv, hr⟩)⟩
        · exact Or.inl h
        · exact Or.inr ⟨v, hv, (hacc v).2 ⟨hsf.1 v hv, hr⟩⟩
    have hsup' : ∀ w ∈ us, cap ∈ g.capsOf w := fun w hw => hsup w (List.mem_cons_of_mem _ hw)
    intro v
    -- `u` moves from the units still to come to the units seen
    have hmove : (v ∈ u :: done ∨ v ∈ us) ↔ (v ∈ done ∨ v ∈ u :: us) := by
      rw [List.mem_cons, List.mem_cons, or_assoc, or_left_comm]
    rw [← hmove]
    simp only [reachPass]
    by_cases hc : (decide (u ∈ outs) || (capSuccs g cap u).any (fun v => decide (v ∈ acc))) = true
    · rw [if_pos hc]
      refine reachPass_inv us (u :: done) (u :: acc) (fun w => ?_) hsf.2 hsup' v
      rw [List.mem_cons, List.mem_cons, hacc w, or_and_right]
      exact or_congr_left (iff_self_and.2 fun h => h ▸ hcond.1 hc)
    · rw [if_neg hc]
      refine reachPass_inv us (u :: done) acc (fun w => ?_) hsf.2 hsup' v
      rw [hacc w, List.mem_cons, or_and_right]
      exact (or_iff_right fun (h : w = u ∧ ReachIn g cap outs w) => hc (hcond.2 (h.1 ▸ h.2))).symm

/-- **`reachPass`** over a successors-first order of supporting units computes exactly the listed units from which
a unit of `outs` is reachable through supporting units -/
theorem mem_reachPass_iff {pc : List N} (hsf : SuccFirst (capSuccs g cap) [] pc)
    (hsup : ∀ u ∈ pc, cap ∈ g.capsOf u) (v : N) :
    v ∈ reachPass g cap outs pc [] ↔ v ∈ pc ∧ ReachIn g cap outs v := by
  rw [reachPass_inv g cap outs pc [] [] (by intro v; simp) hsf hsup v]
  simp

end Reach

theorem chkFlow_cases (cap : N) (reach : List N) : ∀ ports : List N,
    (chkFlow cap reach ports = .ok () ∧ ∀ p ∈ ports, p ∈ reach) ∨
    (∃ p ∈ ports, chkFlow cap reach ports = .error (.blockedCap cap p) ∧ p ∉ reach)
  | [] => Or.inl ⟨rfl, fun _ h => nomatch h⟩
  | p :: ps => by
    simp only [chkFlow]
    by_cases hp : p ∈ reach
    · rw [if_pos hp]
      rcases chkFlow_cases cap reach ps with ⟨hok, hall⟩ | ⟨q, hq, herr, hn⟩
      · exact Or.inl ⟨hok, List.forall_mem_cons.2 ⟨hp, hall⟩⟩
      · exact Or.inr ⟨q, List.mem_cons_of_mem _ hq, herr, hn⟩
    · rw [if_neg hp]
      exact Or.inr ⟨p, List.mem_cons_self, rfl, hp⟩

/-- the table `m` (built as `capUnits` builds it) lists port `p` under capability `c` -/
def PortUnder (m : List (N × List N)) (c p : N) : Prop := ∃ ps, (c, ps) ∈ m ∧ p ∈ ps

omit [DecidableEq N] in
theorem portUnder_nil (c p : N) : ¬ PortUnder ([] : List (N × List N)) c p := fun ⟨_, h, _⟩ => nomatch h

omit [DecidableEq N] in
theorem portUnder_cons {c0 : N} {ps0 : List N} {m : List (N × List N)} {c p : N} :
    PortUnder ((c0, ps0) :: m) c p ↔ (c = c0 ∧ p ∈ ps0) ∨ PortUnder m c p := by
  constructor
  · rintro ⟨ps, h1, h2⟩
    rcases List.mem_cons.1 h1 with h | h
    · cases h
      exact .inl ⟨rfl, h2⟩
    · exact .inr ⟨ps, h, h2⟩
  · rintro (⟨rfl, h2⟩ | ⟨ps, h1, h2⟩)
    · exact ⟨ps0, List.mem_cons_self, h2⟩
    · exact ⟨ps, List.mem_cons_of_mem _ h1, h2⟩

theorem portUnder_addCapPort (cap port c p : N) : ∀ m : List (N × List N),
    PortUnder (addCapPort m cap port) c p ↔ PortUnder m c p ∨ (c = cap ∧ p = port)
  | [] => by
    rw [addCapPort, portUnder_cons, List.mem_singleton]
    simp only [portUnder_nil, or_false, false_or]
  | (c0, ps0) :: rest => by
    rw [addCapPort]
    by_cases h : c0 = cap
    · subst h
      rw [if_pos rfl, portUnder_cons, portUnder_cons, List.mem_append, List.mem_singleton, and_or_left, or_right_comm]
    · rw [if_neg h, portUnder_cons, portUnder_cons, portUnder_addCapPort cap port c p rest, or_assoc]

theorem portUnder_foldl_caps (port c p : N) : ∀ (caps : List N) (m : List (N × List N)),
    PortUnder (caps.foldl (fun m c => addCapPort m c port) m) c p ↔ PortUnder m c p ∨ (c ∈ caps ∧ p = port)
  | [], m => by simp
  | c0 :: cs, m => by
    simp only [List.foldl_cons]
    rw [portUnder_foldl_caps port c p cs, portUnder_addCapPort]
    simp only [List.mem_cons]
    constructor
    · rintro ((h | ⟨h1, h2⟩) | ⟨h1, h2⟩)
      · exact Or.inl h
      · exact Or.inr ⟨Or.inl h1, h2⟩
      · exact Or.inr ⟨Or.inr h1, h2⟩
    · rintro (h | ⟨(h1 | h1), h2⟩)
      · exact Or.inl (Or.inl h)
      · exact Or.inl (Or.inr ⟨h1, h2⟩)
      · exact Or.inr ⟨h1, h2⟩

theorem portUnder_foldl_ports (capsOf : N → List N) (c p : N) : ∀ (ports : List N) (m : List (N × List N)),
    PortUnder (ports.foldl (fun m q => (capsOf q).foldl (fun m c => addCapPort m c q) m) m) c p ↔
      PortUnder m c p ∨ (p ∈ ports ∧ c ∈ capsOf p)
  | [], m => by simp
  | q :: qs, m => by
    simp only [List.foldl_cons]
    rw [portUnder_foldl_ports capsOf c p qs, portUnder_foldl_caps]
    simp only [List.mem_cons]
    constructor
    · rintro ((h | ⟨h1, rfl⟩) | ⟨h1, h2⟩)
      · exact Or.inl h
      · exact Or.inr ⟨Or.inl rfl, h1⟩
      · exact Or.inr ⟨Or.inr h1, h2⟩
    · rintro (h | ⟨(rfl | h1), h2⟩)
      · exact Or.inl (Or.inl h)
      · exact Or.inl (Or.inr ⟨h2, rfl⟩)
      · exact Or.inr ⟨h1, h2⟩

theorem portUnder_capUnits (g : Graph N) (c p : N) : PortUnder (capUnits g) c p ↔ p ∈ g.inPorts ∧ c ∈ g.capsOf p := by
  unfold capUnits
  rw [portUnder_foldl_ports]
  simp [PortUnder]

/-- `post` lists every unit, each after all of its successors (the contract of `dfs_postorder_nodes` on a DAG) -/
structure IsPostOrder (g : Graph N) (post : List N) : Prop where
  all : ∀ u ∈ g.names, u ∈ post
  succsBefore : ∀ l1 u l2, post = l1 ++ u :: l2 → ∀ v, (u, v) ∈ g.edges → v ∈ l1

omit [DecidableEq N] in
theorem succFirst_of_split (succ : N → List N) : ∀ (rest done : List N),
    (∀ l1 u l2, rest = l1 ++ u :: l2 → ∀ v ∈ succ u, v ∈ l1 ∨ v ∈ done) → SuccFirst succ done rest
  | [], _, _ => trivial
  | u :: us, done, h => by
    refine ⟨?_, succFirst_of_split succ us (u :: done) ?_⟩
    · intro v hv
      rcases h [] u us rfl v hv with h' | h'
      · cases h'
      · exact h'
    · intro l1 w l2 hus v hv
      rcases h (u :: l1) w l2 (by rw [hus]; rfl) v hv with h' | h'
      · rcases List.mem_cons.1 h' with h'' | h''
        · exact Or.inr (h'' ▸ List.mem_cons_self)
        · exact Or.inl h''
      · exact Or.inr (List.mem_cons_of_mem _ h')

theorem succFirst_filter {g : Graph N} {post : List N} (hp : IsPostOrder g post) (cap : N) :
    SuccFirst (capSuccs g cap) [] (post.filter (fun u => decide (cap ∈ g.capsOf u))) := by
  apply succFirst_of_split
  intro l1 u l2 hf v hv
  left
  -- in `post`, `u` stands after `m1 ++ n1`, of which `l1` is the supporting part (`n1` holds no supporting unit)
  obtain ⟨m1, m2, hpost, h1, h2⟩ := List.filter_eq_append_iff.1 hf
  obtain ⟨n1, n2, hm2, hn1, hu, hn2⟩ := List.filter_eq_cons_iff.1 h2
  rw [mem_capSuccs] at hv
  -- a capability successor `v` of `u` stands before `u` in `post` and supports `cap`, so the filter keeps it
  have hbefore : v ∈ m1 ++ n1 := hp.succsBefore (m1 ++ n1) u n2 (by rw [hpost, hm2]; simp) v hv.1
  rw [← h1]
  rcases List.mem_append.1 hbefore with h | h
  · exact List.mem_filter.2 ⟨h, by simpa using hv.2⟩
  · have := hn1 v h
    simp at this
    exact absurd hv.2 this

theorem mem_supporting {g : Graph N} {post : List N} {cap u : N} :
    u ∈ post.filter (fun u => decide (cap ∈ g.capsOf u)) ↔ (u ∈ post ∧ cap ∈ g.capsOf u) := by
  simp [List.mem_filter]

theorem mem_supporting_of_capsOf {g : Graph N} {post : List N} (hp : IsPostOrder g post) {cap u : N} (h : cap ∈ g.capsOf u) :
    u ∈ post.filter (fun u => decide (cap ∈ g.capsOf u)) :=
  mem_supporting.2 ⟨hp.all u (mem_names_of_capsOf h), h⟩

section CapList
variable (g : Graph N) (post outs : List N) (multi : Bool)

/-- the three checks `_do_cap_checks` runs for one capability over its supporting units `pc` all pass -/
def CapPasses (pc : List N) (cp : N × List N) : Prop :=
  ∃ L, lockPass g cp.1 pc [] = .ok L ∧ (∀ p ∈ cp.2, ∀ t, countOf t (Locks.get L p) ≠ 0) ∧
    (multi = true → ∀ p ∈ cp.2, p ∈ reachPass g cp.1 outs pc [])

/-- `e` is what `_do_cap_checks` raises for this capability: the lock pass fails with `e`, or it passes and `e` names a
port with no lock of some type on its routes, or (more than one unit) a port from which no output is reached -/
def CapFails (e : LoadError N) (pc : List N) (cp : N × List N) : Prop :=
  lockPass g cp.1 pc [] = .error e ∨
  (∃ L, lockPass g cp.1 pc [] = .ok L ∧ ∃ p t, p ∈ cp.2 ∧ e = .pathLock p t cp.1 ∧ countOf t (Locks.get L p) = 0) ∨
  (multi = true ∧ ∃ p ∈ cp.2, e = .blockedCap cp.1 p ∧ p ∉ reachPass g cp.1 outs pc [])

theorem chkCapList_cons (cap : N) (ports : List N) (rest : List (N × List N)) :
    chkCapList g post outs multi ((cap, ports) :: rest) =
      match lockPass g cap (post.filter (fun u => decide (cap ∈ g.capsOf u))) [] with
      | .error e => .error e
      | .ok locks =>
        match chkInLocks cap locks ports with
        | .error e => .error e
        | .ok _ =>
          match (if multi then
            chkFlow cap (reachPass g cap outs (post.filter (fun u => decide (cap ∈ g.capsOf u))) []) ports
          else .ok ()) with
          | .error e => .error e
          | .ok _ => chkCapList g post outs multi rest :=
  rfl

theorem chkCapList_cases : ∀ l : List (N × List N),
    (chkCapList g post outs multi l = .ok () ∧
      ∀ cp ∈ l, CapPasses g outs multi (post.filter (fun u => decide (cp.1 ∈ g.capsOf u))) cp) ∨
    (∃ e, chkCapList g post outs multi l = .error e ∧
      ∃ cp ∈ l, CapFails g outs multi e (post.filter (fun u => decide (cp.1 ∈ g.capsOf u))) cp) := by
  intro l
  induction l with
  | nil => exact Or.inl ⟨rfl, fun _ h => nomatch h⟩
  | cons cp rest ih =>
    obtain ⟨cap, ports⟩ := cp
    -- once the three checks for `cap` have passed, the outcome is that of the remaining capabilities
    have tail : CapPasses g outs multi (post.filter (fun u => decide (cap ∈ g.capsOf u))) (cap, ports) →
        (chkCapList g post outs multi rest = .ok () ∧ ∀ cp ∈ (cap, ports) :: rest,
          CapPasses g outs multi (post.filter (fun u => decide (cp.1 ∈ g.capsOf u))) cp) ∨
        (∃ e, chkCapList g post outs multi rest = .error e ∧ ∃ cp ∈ (cap, ports) :: rest,
          CapFails g outs multi e (post.filter (fun u => decide (cp.1 ∈ g.capsOf u))) cp) := by
      intro hpass
      rcases ih with ⟨hok, hall⟩ | ⟨e, herr, cp, hcp, hf⟩
      · exact Or.inl ⟨hok, List.forall_mem_cons.2 ⟨hpass, hall⟩⟩
      · exact Or.inr ⟨e, herr, cp, List.mem_cons_of_mem _ hcp, hf⟩
    rw [chkCapList_cons]
    cases h1 : lockPass g cap (post.filter (fun u => decide (cap ∈ g.capsOf u))) [] with
    | error e => exact Or.inr ⟨e, rfl, (cap, ports), List.mem_cons_self, Or.inl h1⟩
    | ok L =>
      simp only []
      rcases chkInLocks_cases cap L ports with ⟨h2, hnz⟩ | ⟨p, t, hp, h2, h0⟩
      · rw [h2]
        cases multi with
        | false => exact tail ⟨L, h1, hnz, fun h => nomatch h⟩
        | true =>
          rcases chkFlow_cases cap (reachPass g cap outs (post.filter (fun u => decide (cap ∈ g.capsOf u))) [])
            ports with ⟨h3, hall⟩ | ⟨p, hp, h3, hn⟩
          · rw [if_pos rfl, h3]
            exact tail ⟨L, h1, hnz, fun _ => hall⟩
          · rw [if_pos rfl, h3]
            exact Or.inr ⟨_, rfl, (cap, ports), List.mem_cons_self, Or.inr (Or.inr ⟨rfl, p, hp, rfl, hn⟩)⟩
      · rw [h2]
        exact Or.inr ⟨_, rfl, (cap, ports), List.mem_cons_self, Or.inr (Or.inl ⟨L, h1, p, t, hp, rfl, h0⟩)⟩

end CapList

omit [DecidableEq N] in
theorem lockCount_append (R : RG N) (t : LockType) (a b : List N) :
    R.lockCount t (a ++ b) = R.lockCount t a + R.lockCount t b := by
  unfold RG.lockCount
  rw [List.filter_append, List.length_append]

/-- a route from `p` to `u` prolongs every maximal route from `u` to a maximal route from `p` -/
theorem exists_prefix (g : Graph N) (cap u : N) : ∀ (r0 : List N) (p : N), (rgOfGraph g).IsRoute cap r0 →
    r0.head? = some p → r0.getLast? = some u →
    ∃ pre : List N, ∀ r, MaxRouteFrom g cap u r → MaxRouteFrom g cap p (pre ++ r)
  | [], p, _, hh, _ => nomatch hh
  | [a], p, _, hh, hl => by
    cases hh
    cases hl
    exact ⟨[], fun r hr => hr⟩
  | a :: b :: l, p, hr0, hh, hl => by
    cases hh
    rw [isRoute_graph_cons] at hr0
    rw [List.getLast?_cons_cons] at hl
    obtain ⟨pre, hpre⟩ := exists_prefix g cap u (b :: l) b hr0.2.2 rfl hl
    exact ⟨a :: pre, fun r hr => (maxRouteFrom_iff g cap).2 ⟨hr0.1, Or.inr ⟨b, pre ++ r, rfl, hr0.2.1, hpre r hr⟩⟩⟩

/-- a lock defect at a unit fed from `p` is a lock defect at `p` -/
theorem not_locksExact_of_bad {g : Graph N} {cap u p : N} {t : LockType} {r0 : List N}
    (hr0 : (rgOfGraph g).IsRoute cap r0) (hh : r0.head? = some p) (hl : r0.getLast? = some u)
    (hbad : Bad g cap t u) : ¬ (rgOfGraph g).LocksExact cap p := by
  obtain ⟨pre, hpre⟩ := exists_prefix g cap u r0 p hr0 hh hl
  intro hex
  have key : ∀ r, MaxRouteFrom g cap u r → (rgOfGraph g).lockCount t pre + (rgOfGraph g).lockCount t r = 1 := by
    intro r hr
    have h1 := hpre r hr
    have h2 := hex (pre ++ r) h1.1 h1.2
    rw [← lockCount_append]
    cases t
    · exact h2.1
    · exact h2.2
  rcases hbad with ⟨r, hr, h2⟩ | ⟨r1, r2, h1, h2, hne⟩
  · have := key r hr; omega
  · have := key r1 h1; have := key r2 h2; omega

theorem isOut_iff_mem_outPorts {g : Graph N} (hin : ∀ e ∈ g.edges, e.1 ∈ g.names ∧ e.2 ∈ g.names) {o : N}
    (ho : o ∈ g.names) : (rgOfGraph g).isOut o = true ↔ o ∈ g.outPorts := by
  unfold RG.isOut RG.succs Graph.outPorts
  rw [List.mem_filter, List.isEmpty_iff, List.isEmpty_iff, List.eq_nil_iff_forall_not_mem,
    List.eq_nil_iff_forall_not_mem]
  simp only [List.mem_filter, rgOfGraph, decide_eq_true_eq, Graph.mem_succs, not_and]
  constructor
  · intro h
    exact ⟨ho, fun v hv => h v (hin _ hv).2 hv⟩
  · intro h v _ hv
    exact h.2 v hv

theorem isIn_iff_mem_inPorts {g : Graph N} (hin : ∀ e ∈ g.edges, e.1 ∈ g.names ∧ e.2 ∈ g.names) {p : N}
    (hp : p ∈ g.names) : (rgOfGraph g).isIn p = true ↔ p ∈ g.inPorts := by
  rw [isIn_iff_no_pred, Graph.mem_inPorts]
  constructor
  · intro h
    exact ⟨hp, fun a ha => h a (hin _ ha).1 (rgOfGraph_conn.2 ha)⟩
  · intro h v _ hv
    exact h.2 v (rgOfGraph_conn.1 hv)

theorem reachesOut_iff_reachIn {g : Graph N} (hin : ∀ e ∈ g.edges, e.1 ∈ g.names ∧ e.2 ∈ g.names) {c u : N} :
    (rgOfGraph g).ReachesOut c u ↔ ReachIn g c g.outPorts u := by
  unfold RG.ReachesOut ReachIn
  constructor
  · rintro ⟨r, hr, hh, o, hl, ho⟩
    refine ⟨r, hr, hh, o, hl, (isOut_iff_mem_outPorts hin ?_).1 ho⟩
    exact mem_names_of_capsOf (rgOfGraph_sup.1 (hr.2.1 o (List.mem_of_mem_getLast? hl)))
  · rintro ⟨r, hr, hh, o, hl, ho⟩
    refine ⟨r, hr, hh, o, hl, (isOut_iff_mem_outPorts hin ?_).2 ho⟩
    exact mem_names_of_capsOf (rgOfGraph_sup.1 (hr.2.1 o (List.mem_of_mem_getLast? hl)))

theorem locksExact_iff_maxRouteFrom {g : Graph N} {c p : N} :
    (rgOfGraph g).LocksExact c p ↔ ∀ r, MaxRouteFrom g c p r → ∀ t, (rgOfGraph g).lockCount t r = 1 := by
  unfold RG.LocksExact MaxRouteFrom
  constructor
  · intro h r hr t
    cases t
    · exact (h r hr.1 hr.2).1
    · exact (h r hr.1 hr.2).2
  · intro h r h1 h2
    exact ⟨h r ⟨h1, h2⟩ .read, h r ⟨h1, h2⟩ .write⟩

section Main
variable {g : Graph N} {post : List N} {multi : Bool}

/-- **accepting run of `_do_cap_checks`**: every capability offered at an input port crosses exactly one read lock
and one write lock on every maximal route, and reaches an output port -/
theorem chkCapList_capUnits_ok (hp : IsPostOrder g post) (hin : ∀ e ∈ g.edges, e.1 ∈ g.names ∧ e.2 ∈ g.names)
    (hsingle : multi = false → ∀ p ∈ g.inPorts, p ∈ g.outPorts)
    (h : chkCapList g post g.outPorts multi (capUnits g) = .ok ()) :
    ∀ p ∈ g.inPorts, ∀ c ∈ g.capsOf p, (rgOfGraph g).LocksExact c p ∧ (rgOfGraph g).ReachesOut c p := by
  intro p hpi c hc
  obtain ⟨ps, hmem, hps⟩ := (portUnder_capUnits g c p).2 ⟨hpi, hc⟩
  rcases chkCapList_cases g post g.outPorts multi (capUnits g) with ⟨_, hall⟩ | ⟨e, herr, _⟩
  · obtain ⟨L, hlock, hnz, hflow⟩ := hall (c, ps) hmem
    have hsf := succFirst_filter hp c
    have hsup : ∀ u ∈ post.filter (fun u => decide (c ∈ g.capsOf u)), c ∈ g.capsOf u := fun u hu => (mem_supporting.1 hu).2
    have hcor := lockPass_ok g c hsf hsup hlock p (mem_supporting_of_capsOf hp hc)
    constructor
    · rw [locksExact_iff_maxRouteFrom]
      intro r hr t
      have h1 := (hcor.2 t).1
      have h2 := (hcor.2 t).2 r hr
      have h3 := hnz p hps t
      omega
    · rw [reachesOut_iff_reachIn hin]
      cases hm : multi with
      | true =>
        exact ((mem_reachPass_iff g c g.outPorts hsf hsup p).1 (hflow hm p hps)).2
      | false =>
        rw [reachIn_iff]
        exact ⟨hc, Or.inl (hsingle hm p hpi)⟩
  · rw [h] at herr; cases herr

/-- **rejecting run of `_do_cap_checks`**: the error names a real culprit -/
theorem chkCapList_capUnits_error (hp : IsPostOrder g post) (hin : ∀ e ∈ g.edges, e.1 ∈ g.names ∧ e.2 ∈ g.names)
    {e : LoadError N} (h : chkCapList g post g.outPorts multi (capUnits g) = .error e) :
    (∃ u t c, e = .pathLock u t c ∧ c ∈ g.capsOf u ∧
      (Bad g c t u ∨ (u ∈ g.inPorts ∧ ∃ r, MaxRouteFrom g c u r ∧ (rgOfGraph g).lockCount t r = 0))) ∨
    (∃ c p, e = .blockedCap c p ∧ p ∈ g.inPorts ∧ c ∈ g.capsOf p ∧ ¬ (rgOfGraph g).ReachesOut c p) := by
  rcases chkCapList_cases g post g.outPorts multi (capUnits g) with ⟨hok, _⟩ | ⟨e', herr, ⟨c, ps⟩, hmem, hf⟩
  · rw [h] at hok; cases hok
  · rw [h] at herr
    cases herr
    have hsf := succFirst_filter hp c
    have hsup : ∀ u ∈ post.filter (fun u => decide (c ∈ g.capsOf u)), c ∈ g.capsOf u := fun u hu => (mem_supporting.1 hu).2
    rcases hf with hl | ⟨L, hl, p, t, hps, he, h0⟩ | ⟨_, p, hps, he, hnot⟩
    · obtain ⟨u, t, hu, he, hbad⟩ := lockPass_error g c hsf hsup hl
      left
      exact ⟨u, t, c, he, hsup u hu, Or.inl hbad⟩
    · have hpc := (portUnder_capUnits g c p).1 ⟨ps, hmem, hps⟩
      have hcor := lockPass_ok g c hsf hsup hl p (mem_supporting_of_capsOf hp hpc.2)
      obtain ⟨r, hr⟩ := hcor.1
      left
      refine ⟨p, t, c, he, hpc.2, Or.inr ⟨hpc.1, r, hr, ?_⟩⟩
      rw [(hcor.2 t).2 r hr, h0]
    · have hpc := (portUnder_capUnits g c p).1 ⟨ps, hmem, hps⟩
      right
      refine ⟨c, p, he, hpc.1, hpc.2, ?_⟩
      rw [reachesOut_iff_reachIn hin]
      intro hr
      exact hnot ((mem_reachPass_iff g c g.outPorts hsf hsup p).2 ⟨mem_supporting_of_capsOf hp hpc.2, hr⟩)

/-- every unit supporting a capability is fed with it from an input port through supporting units
(what `clean_struct` and the dead-end removal leave behind) -/
def FedFromInputs (g : Graph N) : Prop :=
  ∀ u c, c ∈ g.capsOf u → ∃ p ∈ g.inPorts, ∃ r0, (rgOfGraph g).IsRoute c r0 ∧ r0.head? = some p ∧ r0.getLast? = some u

/-- a rejecting run means that some capability offered at an input port has a lock defect or reaches no output -/
theorem chkCapList_capUnits_error_port (hp : IsPostOrder g post) (hin : ∀ e ∈ g.edges, e.1 ∈ g.names ∧ e.2 ∈ g.names)
    (hfed : FedFromInputs g) {e : LoadError N} (h : chkCapList g post g.outPorts multi (capUnits g) = .error e) :
    (e.cls = .pathLock ∧ ∃ p ∈ g.inPorts, ∃ c ∈ g.capsOf p, ¬ (rgOfGraph g).LocksExact c p) ∨
    (e.cls = .blockedCap ∧ ∃ p ∈ g.inPorts, ∃ c ∈ g.capsOf p, ¬ (rgOfGraph g).ReachesOut c p) := by
  rcases chkCapList_capUnits_error hp hin h with ⟨u, t, c, he, hc, hb⟩ | ⟨c, p, he, hpi, hc, hno⟩
  · left
    subst he
    refine ⟨rfl, ?_⟩
    rcases hb with hbad | ⟨hui, r, hr, h0⟩
    · obtain ⟨p, hpi, r0, hr0, hh, hl⟩ := hfed u c hc
      have hpc : c ∈ g.capsOf p := rgOfGraph_sup.1 (hr0.2.1 p (List.mem_of_mem_head? hh))
      exact ⟨p, hpi, c, hpc, not_locksExact_of_bad hr0 hh hl hbad⟩
    · refine ⟨u, hui, c, hc, ?_⟩
      rw [locksExact_iff_maxRouteFrom]
      intro hex
      have := hex r hr t
      omega
  · right
    subst he
    exact ⟨rfl, p, hpi, c, hc, hno⟩

/-- **completeness of `_do_cap_checks`**: without a lock defect and without a blocked capability the checks pass -/
theorem chkCapList_capUnits_complete (hp : IsPostOrder g post) (hin : ∀ e ∈ g.edges, e.1 ∈ g.names ∧ e.2 ∈ g.names)
    (hfed : FedFromInputs g)
    (hall : ∀ p ∈ g.inPorts, ∀ c ∈ g.capsOf p, (rgOfGraph g).LocksExact c p ∧ (rgOfGraph g).ReachesOut c p) :
    chkCapList g post g.outPorts multi (capUnits g) = .ok () := by
  cases h : chkCapList g post g.outPorts multi (capUnits g) with
  | ok x => rfl
  | error e =>
    rcases chkCapList_capUnits_error_port hp hin hfed h with ⟨_, p, hpi, c, hc, hno⟩ | ⟨_, p, hpi, c, hc, hno⟩
    · exact absurd (hall p hpi c hc).1 hno
    · exact absurd (hall p hpi c hc).2 hno

end Main

end LoaderLocks
end Loader
end ProcSim
