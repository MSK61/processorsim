import ProcSim.PyLite
/-!
# The PyLite runtime means what it says (sanity theorems about the translator's runtime)

`PySet` stands for a Python `set`: these theorems show that, on duplicate-free member lists (which every operation
preserves), `contains / add / remove / eq / len` are exactly membership, insertion, deletion, extensional equality and
cardinality — i.e. nothing observable depends on the order in which the model happens to keep the members.  The list
primitives (`xs[-k]`, `xs[-k] = v`, `del xs[-k]`) are characterised against `List.reverse` indexing.
-/
namespace PyLite
set_option linter.unusedSectionVars false
namespace PySet
variable {α : Type} [DecidableEq α]

def WF (s : PySet α) : Prop := s.elems.Nodup

theorem empty_wf : (empty : PySet α).WF := List.nodup_nil
theorem single_wf (x : α) : (single x).WF := by simp [WF, single]

theorem add_wf {s : PySet α} (h : s.WF) (x : α) : (s.add x).WF := by
  unfold add WF at *
  split
  · exact h
  · rename_i hx
    exact List.nodup_append.2 ⟨h, by simp, by
      intro a ha b hb; rw [List.mem_singleton] at hb; subst hb; intro e; exact hx (e ▸ ha)⟩

theorem remove_wf {s s' : PySet α} (h : s.WF) {x : α} (hr : s.remove x = .ok s') : s'.WF := by
  unfold remove at hr
  split at hr
  · cases hr; exact h.erase x
  · cases hr

@[simp] theorem mem_add (s : PySet α) (x y : α) : y ∈ (s.add x).elems ↔ y = x ∨ y ∈ s.elems := by
  unfold add
  split
  · rename_i hx
    constructor
    · intro h; exact Or.inr h
    · rintro (rfl | h)
      · exact hx
      · exact h
  · simp [or_comm]

theorem contains_iff (s : PySet α) (x : α) : s.contains x = true ↔ x ∈ s.elems := by simp [contains]

theorem remove_error_iff (s : PySet α) (x : α) : s.remove x = .error .keyError ↔ x ∉ s.elems := by
  unfold remove; split <;> simp_all

theorem mem_remove {s s' : PySet α} (h : s.WF) {x : α} (hr : s.remove x = .ok s') (y : α) :
    y ∈ s'.elems ↔ y ≠ x ∧ y ∈ s.elems := by
  unfold remove at hr
  split at hr
  · cases hr
    exact h.mem_erase_iff
  · cases hr

theorem eq_iff (s t : PySet α) : s.eq t = true ↔ ∀ x, x ∈ s.elems ↔ x ∈ t.elems := by
  simp only [eq, Bool.and_eq_true, List.all_eq_true, decide_eq_true_eq]
  constructor
  · rintro ⟨h1, h2⟩ x; exact ⟨h1 x, h2 x⟩
  · intro h; exact ⟨fun x hx => (h x).1 hx, fun x hx => (h x).2 hx⟩

theorem len_add (s : PySet α) (x : α) : (s.add x).len = if x ∈ s.elems then s.len else s.len + 1 := by
  unfold add len; split <;> simp

theorem len_remove {s s' : PySet α} {x : α} (hr : s.remove x = .ok s') : s'.len + 1 = s.len := by
  unfold remove at hr
  split at hr
  · rename_i hx
    cases hr
    simp only [len, List.length_erase_of_mem hx]
    have : 0 < s.elems.length := List.length_pos_of_mem hx
    omega
  · cases hr

theorem truthy_iff (s : PySet α) : truthy s = true ↔ s.elems ≠ [] := by
  simp [truthy, Truthy.truthy]

end PySet

theorem idxNeg_eq_reverse {α : Type} (xs : List α) (k : Nat) (hk : 1 ≤ k) :
    idxNeg xs k = (match xs.reverse[k - 1]? with | some x => .ok x | none => .error .indexError) := by
  unfold idxNeg
  by_cases h : k = 0 ∨ xs.length < k
  · have hlen : xs.reverse.length ≤ k - 1 := by
      rcases h with h | h
      · omega
      · simp only [List.length_reverse]; omega
    rw [if_pos h, List.getElem?_eq_none hlen]
  · rw [if_neg h]
    have h' : k - 1 < xs.length := by omega
    rw [List.getElem?_reverse h']
    have : xs.length - 1 - (k - 1) = xs.length - k := by omega
    rw [this]
    rfl

theorem delIdxNeg_one {α : Type} (xs : List α) :
    delIdxNeg xs 1 = if xs = [] then .error .indexError else .ok xs.dropLast := by
  unfold delIdxNeg
  cases xs with
  | nil => simp
  | cons a t =>
    have h : ¬ (1 = 0 ∨ (a :: t).length < 1) := by simp
    rw [if_neg h]
    simp only [reduceCtorEq, if_false, List.length_cons, Nat.add_sub_cancel]
    congr 1
    rw [List.dropLast_eq_take]
    simp [List.eraseIdx_eq_take_drop_succ]

end PyLite
