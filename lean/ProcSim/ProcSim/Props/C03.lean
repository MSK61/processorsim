import ProcSim.Lemmas.Routes
/-!
# C03 — each instruction follows one legal gap-free route from an input to an output

For every well-formed processor, every program and every diagram `simulate` hands out (returned, or carried by the
stall error) the nine clauses of the checker `Spec.C03` hold:

1. the instructions in the diagram are a prefix `0..k-1` of the program;
2. only program instructions and only unit names appear;
3. a returned diagram contains every instruction;
4. every instruction of the diagram occupies one unit per cycle over one contiguous span of cycles,
5. starting in an input-boundary port,
6. every occupied unit supporting its capability,
7. its labels inside each unit reading `D..D, U, S..S` (`D+` alone only for a stay that reaches the frozen last cycle
   of a stall diagram),
8. every change of unit following a declared connection and never leaving from `D`,
9. ending unstalled (`U`) in an output-boundary port (unless still in flight in the last cycle of a stall diagram).

Proof (`Lemmas/RoutesCore.lean`, `Lemmas/Routes.lean`): the two-row relation `Step` holds for `runCycle` (every hosted
instruction stayed / moved along a declared connection out of a non-`D` label / was issued into a supporting input
port; instructions vanish only from the output boundary when not `D`); the state invariant `RouteInv` chains it over
the table; `Routed.routeOf` turns this into a list-level description `RouteOf` of `Ctx.positions i`, from which the
clauses are list arguments.

Each theorem comes as the checker's verdict and, with a trailing `'`, in readable form (`C03_Holds`); `_struct` marks the
versions from `structOK` alone.
-/
namespace ProcSim
open Spec
open Routes

attribute [local implicit_reducible] AMap

variable {N : Type} [DecidableEq N]

/-- the labels of one stay in a unit read `D..D, U, S..S`; with an open end `D, …, D` (at least one) is allowed too -/
def StayLabels (openEnd : Bool) (ls : List Stall) : Prop :=
  (∃ k m, ls = List.replicate k Stall.D ++ Stall.U :: List.replicate m Stall.S) ∨
  (openEnd = true ∧ ∃ k, ls = List.replicate (k + 1) Stall.D)

/-- **The route of instruction `i` is legal** (clauses 4–9), `l = c.positions i` being its `(cycle, unit, label)`
positions in diagram order. -/
structure GoodRoute (c : Ctx N) (i : Nat) : Prop where
  contiguous : Adjacent (fun a b => b.1 = a.1 + 1) (c.positions i)
  starts : ∃ x, (c.positions i).head? = some x ∧ x.2.1.name ∈ c.p.inBoundary.map (·.name)
  supports : ∀ x ∈ c.positions i, capIn c.prog i x.2.1.caps = true
  /-- labels per stay (`stays` = maximal runs in the same unit); the stay reaching the last cycle of a stall diagram
  has an open end -/
  labels : ∀ s ∈ stays (c.positions i),
    StayLabels (c.stalled && (s.getLast?.map (·.1 + 1)) == some c.T) (s.map (·.2.2))
  moves : Adjacent (fun a b => a.2.1.name = b.2.1.name ∨ (a.2.1.name ∈ predsOf c.p b.2.1.name ∧ a.2.2 ≠ .D))
    (c.positions i)
  ends : ∃ x, (c.positions i).getLast? = some x ∧
    ((c.stalled = true ∧ x.1 + 1 = c.T) ∨ (x.2.1.name ∈ c.p.outBoundary ∧ x.2.2 = .U))

/-- **C03, readable form.** -/
structure C03_Holds (c : Ctx N) : Prop where
  isPrefix : ∀ i, i < c.n → (c.issued i = true ↔ i < c.enteredCount)
  inProgram : ∀ t, t < c.T → ∀ u ∈ c.units, ∀ h ∈ c.occ t u.name, h.idx < c.n
  unitsOnly : ∀ t, t < c.T → ∀ e ∈ AMap.toList (c.row t), e.2 = [] ∨ e.1 ∈ c.units.map (·.name)
  complete : c.stalled = false → c.enteredCount = c.n
  route : ∀ i, i < c.enteredCount → GoodRoute c i

theorem stayOK_iff (o : Bool) : ∀ ls, stayOK o ls = true ↔ StayLabels o ls
  | [] => by
    simp only [stayOK, Bool.false_eq_true, false_iff]
    rintro (⟨k, m, h⟩ | ⟨_, k, h⟩)
    · cases k <;> simp [List.replicate_succ] at h
    · simp [List.replicate_succ] at h
  | .S :: rest => by
    simp only [stayOK, Bool.false_eq_true, false_iff]
    rintro (⟨k, m, h⟩ | ⟨_, k, h⟩)
    · cases k <;> simp [List.replicate_succ] at h
    · simp [List.replicate_succ] at h
  | .U :: rest => by
    simp only [stayOK]
    constructor
    · intro h
      left
      refine ⟨0, rest.length, ?_⟩
      simp only [List.replicate_zero, List.nil_append, List.cons.injEq, true_and]
      exact List.eq_replicate_iff.2 ⟨rfl, fun s hs => by simpa using List.all_eq_true.1 h s hs⟩
    · rintro (⟨k, m, h⟩ | ⟨_, k, h⟩)
      · cases k with
        | zero =>
          simp only [List.replicate_zero, List.nil_append, List.cons.injEq, true_and] at h
          rw [h]; simp
        | succ k => simp [List.replicate_succ] at h
      · simp [List.replicate_succ] at h
  | .D :: rest => by
    have ih := stayOK_iff o rest
    simp only [stayOK]
    cases rest with
    | nil =>
      simp only [List.isEmpty_nil, if_true]
      constructor
      · intro h; right; exact ⟨h, 0, rfl⟩
      · rintro (⟨k, m, h⟩ | ⟨h, _⟩)
        · cases k with
          | zero => simp at h
          | succ k => simp [List.replicate_succ] at h
        · exact h
    | cons r rest' =>
      simp only [List.isEmpty_cons, Bool.false_eq_true, if_false]
      rw [ih]
      constructor
      · rintro (⟨k, m, h⟩ | ⟨ho, k, h⟩)
        · left; exact ⟨k + 1, m, by rw [h]; simp [List.replicate_succ]⟩
        · right; exact ⟨ho, k + 1, by rw [h]; simp [List.replicate_succ]⟩
      · rintro (⟨k, m, h⟩ | ⟨ho, k, h⟩)
        · cases k with
          | zero => simp at h
          | succ k => left; exact ⟨k, m, by simpa [List.replicate_succ] using h⟩
        · cases k with
          | zero => simp [List.replicate_succ] at h
          | succ k => right; exact ⟨ho, k, by simpa [List.replicate_succ] using h⟩

theorem RouteOf.good {c : Ctx N} {E : Nat → Nat} {i : Nat} (h : RouteOf c E i) : GoodRoute c i := by
  have hne := h.ne
  refine ⟨h.chain.imp (fun a b hab => hab.1), ?_, ?_, ?_, ?_, ?_⟩
  · cases hp : c.positions i with
    | nil => exact absurd hp hne
    | cons x l =>
      refine ⟨x, rfl, ?_⟩
      have := (h.first x (by rw [hp]; rfl)).1
      exact List.mem_map.2 ⟨_, this, rfl⟩
  · exact h.supports
  · have hall := stays_all_good c.stalled c.T hne h.chain (fun x hx => (h.first x hx).2.1) (by
      intro x hx hd
      rcases h.last x hx with ⟨h1, h2⟩ | ⟨_, h2⟩
      · simp [h1, h2]
      · rw [h2] at hd; cases hd)
    intro s hs
    exact (stayOK_iff _ _).1 (List.all_eq_true.1 hall s hs)
  · refine h.chain.imp ?_
    intro a b hab
    rcases hab.2 with ⟨e, _⟩ | ⟨_, hp, hd, _, _⟩
    · exact Or.inl (by rw [e])
    · exact Or.inr ⟨hp, hd⟩
  · cases hl : (c.positions i).getLast? with
    | none => exact absurd (List.getLast?_eq_none_iff.1 hl) hne
    | some x => exact ⟨x, rfl, h.last x hl⟩

theorem Routed.c03_holds {c : Ctx N} {E : Nat → Nat} (h : Routed c E) : C03_Holds c := by
  have hk := h.run.enteredCount_eq h.le_n
  refine ⟨?_, ?_, ?_, ?_, ?_⟩
  · intro i _
    rw [hk]; exact h.run.issued_iff i
  · intro t ht u _ x hx
    have h1 := (h.run.base t ht).idx_lt u.name x hx
    have h2 := h.run.mono (t := t + 1) (t' := c.T) (by omega) (Nat.le_refl _)
    have h3 := h.le_n
    omega
  · intro t ht e he
    exact (h.run.base t ht).entry_names (n := e.1) (l := e.2) he
  · intro hst
    rw [hk]; exact (h.done hst).1
  · intro i hi
    exact (h.routeOf (by rw [← hk]; exact hi)).good

theorem goodRoute_iff (c : Ctx N) (i : Nat) :
    GoodRoute c i ↔
      consec ((c.positions i).map (·.1)) = true ∧
      (match (c.positions i).head? with
        | some x => isInB c.p x.2.1.name
        | none => false) = true ∧
      (c.positions i).all (fun x => supports c.prog i x.2.1) = true ∧
      (stays (c.positions i)).all (fun s =>
        stayOK (c.stalled && (s.getLast?.map (·.1 + 1)) == some c.T) (s.map (·.2.2))) = true ∧
      pairsOK (fun a b => a.2.1.name = b.2.1.name ||
        (decide (a.2.1.name ∈ predsOf c.p b.2.1.name) && a.2.2 != .D)) (c.positions i) = true ∧
      (match (c.positions i).getLast? with
        | some x => (c.stalled && x.1 + 1 == c.T) || (isOutB c.p x.2.1.name && x.2.2 == .U)
        | none => false) = true := by
  have e1 := consec_iff_adjacent (fun x : Nat × UnitM N × Stall => x.1) (l := c.positions i)
  have e2 : (match (c.positions i).head? with
        | some x => isInB c.p x.2.1.name
        | none => false) = true ↔
      ∃ x, (c.positions i).head? = some x ∧ x.2.1.name ∈ c.p.inBoundary.map (·.name) := by
    cases (c.positions i).head? with
    | none => exact ⟨fun h => (nomatch h), fun ⟨_, h, _⟩ => (nomatch h)⟩
    | some x => simp only [isInB, decide_eq_true_eq, Option.some.injEq, exists_eq_left']
  have e4 : _ ↔ ∀ s ∈ stays (c.positions i),
      StayLabels (c.stalled && (s.getLast?.map (·.1 + 1)) == some c.T) (s.map (·.2.2)) :=
    List.all_eq_true.trans (forall_congr' (fun s => forall_congr' (fun _ => stayOK_iff _ _)))
  have e5' : ∀ a b : Nat × UnitM N × Stall,
      (a.2.1.name = b.2.1.name || (decide (a.2.1.name ∈ predsOf c.p b.2.1.name) && a.2.2 != .D)) = true ↔
        a.2.1.name = b.2.1.name ∨ (a.2.1.name ∈ predsOf c.p b.2.1.name ∧ a.2.2 ≠ .D) :=
    fun a b => by simp only [Bool.or_eq_true, decide_eq_true_eq, Bool.and_eq_true, bne_iff_ne, ne_eq]
  have e5 := (pairsOK_iff_adjacent (fun a b : Nat × UnitM N × Stall => a.2.1.name = b.2.1.name ||
        (decide (a.2.1.name ∈ predsOf c.p b.2.1.name) && a.2.2 != .D)) (l := c.positions i)).trans
      ⟨Adjacent.imp (fun a b => (e5' a b).1), Adjacent.imp (fun a b => (e5' a b).2)⟩
  have e6 : (match (c.positions i).getLast? with
        | some x => (c.stalled && x.1 + 1 == c.T) || (isOutB c.p x.2.1.name && x.2.2 == .U)
        | none => false) = true ↔
      ∃ x, (c.positions i).getLast? = some x ∧
        ((c.stalled = true ∧ x.1 + 1 = c.T) ∨ (x.2.1.name ∈ c.p.outBoundary ∧ x.2.2 = .U)) := by
    cases (c.positions i).getLast? with
    | none => exact ⟨fun h => (nomatch h), fun ⟨_, h, _⟩ => (nomatch h)⟩
    | some x =>
      simp only [isOutB, Bool.or_eq_true, Bool.and_eq_true, beq_iff_eq, decide_eq_true_eq, Option.some.injEq,
        exists_eq_left']
  exact ⟨fun h => ⟨e1.2 h.contiguous, e2.2 h.starts, List.all_eq_true.2 h.supports, e4.2 h.labels, e5.2 h.moves,
      e6.2 h.ends⟩,
    fun h => ⟨e1.1 h.1, e2.1 h.2.1, List.all_eq_true.1 h.2.2.1, e4.1 h.2.2.2.1, e5.1 h.2.2.2.2.1, e6.1 h.2.2.2.2.2⟩⟩

theorem C03_ok_iff (c : Ctx N) : (Spec.C03 c).ok = true ↔ C03_Holds c := by
  simp only [Spec.C03, Clauses.ok_cons, Clauses.ok_nil, and_true]
  constructor
  · rintro ⟨h1, h2, h3, h4, h5, h6, h7, h8, h9⟩
    obtain ⟨h2a, h2b⟩ := Bool.and_eq_true_iff.1 h2
    refine ⟨?_, ?_, ?_, ?_, ?_⟩
    · intro i hi
      rw [eq_of_beq (all_range_iff.1 h1 i hi)]
      exact decide_eq_true_iff
    · simpa only [List.all_eq_true, List.mem_range, decide_eq_true_eq] using h2a
    · intro t ht e he
      have := List.all_eq_true.1 (all_range_iff.1 h2b t ht) e he
      simpa only [Bool.or_eq_true, List.isEmpty_iff, decide_eq_true_eq] using this
    · intro hst
      rw [hst, Bool.false_or] at h3
      exact eq_of_beq h3
    · intro i hi
      exact (goodRoute_iff c i).2 ⟨all_range_iff.1 h4 i hi, all_range_iff.1 h5 i hi, all_range_iff.1 h6 i hi,
        all_range_iff.1 h7 i hi, all_range_iff.1 h8 i hi, all_range_iff.1 h9 i hi⟩
  · intro h
    have hr := fun i hi => (goodRoute_iff c i).1 (h.route i hi)
    refine ⟨all_range_iff.2 ?_, Bool.and_eq_true_iff.2 ⟨?_, ?_⟩, ?_, all_range_iff.2 (fun i hi => (hr i hi).1),
      all_range_iff.2 (fun i hi => (hr i hi).2.1), all_range_iff.2 (fun i hi => (hr i hi).2.2.1),
      all_range_iff.2 (fun i hi => (hr i hi).2.2.2.1), all_range_iff.2 (fun i hi => (hr i hi).2.2.2.2.1),
      all_range_iff.2 (fun i hi => (hr i hi).2.2.2.2.2)⟩
    · intro i hi
      exact beq_iff_eq.2 (Bool.eq_iff_iff.2 ((h.isPrefix i hi).trans decide_eq_true_iff.symm))
    · simpa only [List.all_eq_true, List.mem_range, decide_eq_true_eq] using h.inProgram
    · refine all_range_iff.2 (fun t ht => List.all_eq_true.2 (fun e he => ?_))
      simpa only [Bool.or_eq_true, List.isEmpty_iff, decide_eq_true_eq] using h.unitsOnly t ht e he
    · cases hst : c.stalled with
      | true => rfl
      | false => exact beq_iff_eq.2 (h.complete hst)

variable [LT N] [DecidableRel (α := N) (· < ·)]

/-! C03 needs only the structural part `structOK` of `wfProc` (`Lemmas/SimCore.lean`): unique unit names, sink-first order
with existing non-output predecessors, no repeated predecessor. Neither "every unit has a capability" nor the
lock-placement condition on routes is used by the route proofs; in particular C03 holds for every processor the loader
produces (`Props/C16b.lean`). -/

/-- **C03 from `structOK` (readable form).** -/
theorem C03_routes_struct' (p : Proc N) (prog : List (Instr N)) (tbl : List (Util N)) (stalled : Bool)
    (hs : structOK p = true) (h : Diagram p prog tbl stalled) : C03_Holds (ctx p prog tbl stalled) := by
  obtain ⟨E, hE⟩ := Diagram_routed_struct hs h
  exact hE.c03_holds

/-- **C03 from `structOK`.** -/
theorem C03_routes_struct (p : Proc N) (prog : List (Instr N)) (tbl : List (Util N)) (stalled : Bool)
    (hs : structOK p = true) (h : Diagram p prog tbl stalled) : (Spec.C03 (ctx p prog tbl stalled)).ok = true :=
  (C03_ok_iff _).2 (C03_routes_struct' p prog tbl stalled hs h)

/-- **C03 (readable form).** -/
theorem C03_routes' (p : Proc N) (prog : List (Instr N)) (tbl : List (Util N)) (stalled : Bool)
    (hwf : wfProc p = true) (h : Diagram p prog tbl stalled) : C03_Holds (ctx p prog tbl stalled) :=
  C03_routes_struct' p prog tbl stalled (structOK_of_wfProc hwf) h

/-- **C03.** For a well-formed processor, every diagram of `simulate` — returned or carried by the stall error —
passes all nine clauses of the C03 checker. -/
theorem C03_routes (p : Proc N) (prog : List (Instr N)) (tbl : List (Util N)) (stalled : Bool)
    (hwf : wfProc p = true) (h : Diagram p prog tbl stalled) : (Spec.C03 (ctx p prog tbl stalled)).ok = true :=
  (C03_ok_iff _).2 (C03_routes' p prog tbl stalled hwf h)

/-! ## Non-vacuity

**Fork/join.** Input port `0` (width 2, read lock, capabilities `7` and `8`) forks into the internal units `1`
(capability `7`) and `2` (capability `8`), which join in the output port `3` (width 1, write lock). Four
instructions: `0: r11 := f(r10)` (cap 7), `1: r13 := f(r12)` (cap 8), `2: r11 := f(r11, r13)` (cap 7, *self-dependent*:
reads and writes `r11`, and depends on both older instructions), `3: r14 := f(r11)` (cap 8). The processor is
well-formed; the run returns the 10-cycle diagram below, in which instruction `1` is structurally stalled (`S`) at
the join in cycle 2 (the older instruction `0` takes the output port), instructions `2` and `3` wait data-stalled
(`D`) in the input port, and every route reads input port → branch → output port. -/
namespace C03Example

def u0 : UnitM Nat := ⟨0, 2, [7, 8], true, false, []⟩
def u1 : UnitM Nat := ⟨1, 1, [7], false, false, []⟩
def u2 : UnitM Nat := ⟨2, 1, [8], false, false, []⟩
def u3 : UnitM Nat := ⟨3, 1, [7, 8], false, true, []⟩
def proc : Proc Nat :=
  { inPorts := [u0], outPorts := [⟨u3, [1, 2]⟩], inOut := [], internal := [⟨u1, [0]⟩, ⟨u2, [0]⟩] }
def prog : List (Instr Nat) := [⟨[10], 11, 7⟩, ⟨[12], 13, 8⟩, ⟨[11, 13], 11, 7⟩, ⟨[11], 14, 8⟩]

theorem wf : wfProc proc = true := by decide +kernel

example : wfProc proc = true := wf

/-- the diagram `simulate` returns (rows = cycles; each row lists the units `3, 1, 2, 0` with their hosted
`⟨instruction, label⟩`) -/
def table : List (Util Nat) :=
  [[(3, []), (1, []), (2, []), (0, [⟨0, .U⟩, ⟨1, .U⟩])],
   [(3, []), (1, [⟨0, .U⟩]), (2, [⟨1, .U⟩]), (0, [⟨2, .D⟩, ⟨3, .D⟩])],
   [(3, [⟨0, .U⟩]), (1, []), (2, [⟨1, .S⟩]), (0, [⟨2, .D⟩, ⟨3, .D⟩])],
   [(3, [⟨1, .U⟩]), (1, []), (2, []), (0, [⟨2, .D⟩, ⟨3, .D⟩])],
   [(3, []), (1, []), (2, []), (0, [⟨2, .U⟩, ⟨3, .D⟩])],
   [(3, []), (1, [⟨2, .U⟩]), (2, []), (0, [⟨3, .D⟩])],
   [(3, [⟨2, .U⟩]), (1, []), (2, []), (0, [⟨3, .D⟩])],
   [(3, []), (1, []), (2, []), (0, [⟨3, .U⟩])],
   [(3, []), (1, []), (2, [⟨3, .U⟩]), (0, [])],
   [(3, [⟨3, .U⟩]), (1, []), (2, []), (0, [])]]

theorem run : simulate proc prog = .done table := by
  have h : (match simulate proc prog with
      | .done tbl => tbl == table
      | _ => false) = true := by decide +kernel
  cases hs : simulate proc prog with
  | done tbl => rw [hs] at h; rw [eq_of_beq h]
  | stall tbl => rw [hs] at h; cases h
  | fault f => rw [hs] at h; cases h

example : (match simulate proc prog with
    | .done tbl => tbl == table
    | _ => false) = true := by
  rw [run]
  exact beq_self_eq_true table

/-- the routes the checker reads off the diagram: `(cycle, unit, label)` per instruction -/
def routes (tbl : List (Util Nat)) : List (List (Nat × Nat × Stall)) :=
  (List.range 4).map (fun i => ((ctx proc prog tbl false).positions i).map
    (fun (x : Nat × UnitM Nat × Stall) => (x.1, x.2.1.name, x.2.2)))

example : routes table =
    [[(0, 0, .U), (1, 1, .U), (2, 3, .U)],
     [(0, 0, .U), (1, 2, .U), (2, 2, .S), (3, 3, .U)],
     [(1, 0, .D), (2, 0, .D), (3, 0, .D), (4, 0, .U), (5, 1, .U), (6, 3, .U)],
     [(1, 0, .D), (2, 0, .D), (3, 0, .D), (4, 0, .D), (5, 0, .D), (6, 0, .D), (7, 0, .U), (8, 2, .U), (9, 3, .U)]] := by
  decide +kernel

example : (Spec.C03 (ctx proc prog table false)).ok = true := by decide +kernel

def isDone : Outcome Nat → Bool
  | .done _ => true
  | _ => false

example : ∃ tbl, Diagram proc prog tbl false ∧ (Spec.C03 (ctx proc prog tbl false)).ok = true :=
  ⟨table, Or.inl ⟨rfl, run⟩, C03_routes proc prog table false wf (Or.inl ⟨rfl, run⟩)⟩

end C03Example

/-! **A stall diagram with instructions in flight.** Chain `0` (width 2, read lock) → `1` (write lock) → `2` (output,
capability `7` only). Instruction `0` has capability `9`, which the output port does not support: it stays in unit
`1` for ever (`U, S, …`); instruction `1` behind it is structurally stalled in the input port, instruction `2` reads
the register instruction `1` never gets to write: its stay is `D, D` and reaches the frozen last cycle (the open end
of clause 7). `simulate` raises the stall error with the 3-cycle diagram below; the theorem applies with
`stalled = true`. -/
namespace C03StallExample

def u0 : UnitM Nat := ⟨0, 2, [7, 9], true, false, []⟩
def u1 : UnitM Nat := ⟨1, 1, [7, 9], false, true, []⟩
def u2 : UnitM Nat := ⟨2, 1, [7], false, false, []⟩
def proc : Proc Nat := { inPorts := [u0], outPorts := [⟨u2, [1]⟩], inOut := [], internal := [⟨u1, [0]⟩] }
def prog : List (Instr Nat) := [⟨[10], 11, 9⟩, ⟨[12], 13, 7⟩, ⟨[13], 14, 7⟩]

theorem wf : wfProc proc = true := by decide +kernel

example : wfProc proc = true := wf

def table : List (Util Nat) :=
  [[(2, []), (1, []), (0, [⟨0, .U⟩, ⟨1, .U⟩])],
   [(2, []), (1, [⟨0, .U⟩]), (0, [⟨1, .S⟩, ⟨2, .D⟩])],
   [(2, []), (1, [⟨0, .S⟩]), (0, [⟨1, .S⟩, ⟨2, .D⟩])]]

theorem run : simulate proc prog = .stall table := by
  have h : (match simulate proc prog with
      | .stall tbl => tbl == table
      | _ => false) = true := by decide +kernel
  cases hs : simulate proc prog with
  | done tbl => rw [hs] at h; cases h
  | stall tbl => rw [hs] at h; rw [eq_of_beq h]
  | fault f => rw [hs] at h; cases h

example : (match simulate proc prog with
    | .stall tbl => tbl == table
    | _ => false) = true := by
  rw [run]
  exact beq_self_eq_true table

example : (Spec.C03 (ctx proc prog table true)).ok = true := by decide +kernel

def isStall : Outcome Nat → Bool
  | .stall _ => true
  | _ => false

example : ∃ tbl, Diagram proc prog tbl true ∧ (Spec.C03 (ctx proc prog tbl true)).ok = true :=
  ⟨table, Or.inr ⟨rfl, run⟩, C03_routes proc prog table true wf (Or.inr ⟨rfl, run⟩)⟩

end C03StallExample

end ProcSim
