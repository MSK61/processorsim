import ProcSim.Lemmas.Issue
import ProcSim.Lemmas.Checker
import ProcSim.Lemmas.Sort
/-!
# C06 — in-order eager issue into the first usable input port

For every well-formed processor (names with a strict total order `<`, e.g. `String`), every program and every diagram
`simulate` hands out (returned, or carried by the stall error), the clauses of `C06_Holds` below.

Proof (`Lemmas/Issue.lean`). A diagram comes with its `entered` counters `E 0 = 0 ≤ E 1 ≤ …` (`Diagram_issueFacts`):
cycle `t` issues exactly the instructions `E t … E (t+1) - 1`, every row `t` hosts only indices `< E (t+1)`, so the
first cycle of `i` is the `t` with `E t ≤ i < E (t+1)` (`Run.head_cycle` in `Lemmas/Routes.lean`; `DiagFacts.head_of_issued`
uses `RowND` to identify the port).
The state "at `i`'s turn" is recovered from the final record: everything hosted at that moment has an index `< i`,
everything appended later an index `≥ i` (`usableP`, `usableP_iff_portUsable`); issue is the last phase changing
occupancy and relabelling keeps the hosted indices. The threaded memory flag is exact (`MemIff`): set iff some
instruction has entered (w.r.t. the previous record) a unit whose ACL names its capability — "flag ⇒ entry still there"
needs the sink-first order `orderOK` (`moveFlights_memIff`). `sortedInputs` is sorted by name, so "precedes in the
order of trial" contains "has a smaller name" (`mem_pre_of_name_lt` below; the only use of the order hypothesis).
-/
namespace ProcSim
open Spec

attribute [local implicit_reducible] AMap

variable {N : Type} [DecidableEq N]

variable [LT N] [DecidableRel (α := N) (· < ·)]

/-! The order hypothesis on the name type is `Loader.StrictTotal` of `Lemmas/LoaderGraph.lean` (irreflexive, transitive,
trichotomous `<`; instances `Loader.StrictTotal.string`, `Loader.StrictTotal.nat`). -/

omit [DecidableEq N] in
theorem sortedInputs_pairwise (ho : Loader.StrictTotal N) (p : Proc N) :
    (sortedInputs p).Pairwise (fun a b => ¬ b.name < a.name) :=
  Loader.isort_sorted_of_key ho (·.name) (by simp) p.inBoundary

omit [DecidableEq N] in
theorem mem_pre_of_name_lt (ho : Loader.StrictTotal N) {p : Proc N} {pre post : List (UnitM N)} {port u : UnitM N}
    (hs : sortedInputs p = pre ++ port :: post) (hu : u ∈ p.inBoundary) (hlt : u.name < port.name) : u ∈ pre := by
  have hsorted := sortedInputs_pairwise ho p
  rw [hs] at hsorted
  have hu' : u ∈ pre ++ port :: post := by rw [← hs]; exact mem_sortedInputs.2 hu
  rcases List.mem_append.1 hu' with h | h
  · exact h
  · exfalso
    rcases List.mem_cons.1 h with e | e
    · subst e; exact ho.irrefl _ hlt
    · have := (List.pairwise_append.1 hsorted).2.1
      exact (List.pairwise_cons.1 this).1 u e hlt

/-- C06 in words, over the same reading of the diagram as the Bool checker (`Spec.C06`):

* `prefix_`/`ordered`: the instructions that appear are `0 … k-1` (`k = enteredCount`) and their first cycles are
  non-decreasing — instructions enter in program order;
* `port`: the first position of each is an input-boundary port supporting its capability;
* `eager`: if after cycle `t` the next instruction `issuedBy t` is still outside, every supporting input port is full
  in cycle `t`, or needs the memory port for it while another instruction took the memory port in cycle `t`;
* `first`: the port an instruction enters was usable at its turn, and no supporting input port with a smaller name
  was (`usableAtTurn`: room among the residents that stayed and the instructions issued earlier in the cycle, and
  not (memory needed ∧ memory port taken by a move or an earlier issue of the cycle)). -/
structure C06_Holds (c : Ctx N) : Prop where
  prefix_ : ∀ i, i < c.n → (c.issued i = true ↔ i < c.enteredCount)
  ordered : ∀ i, i + 1 < c.enteredCount →
    ∃ x y, c.firstCycle i = some x ∧ c.firstCycle (i + 1) = some y ∧ x ≤ y
  port : ∀ i, i < c.enteredCount →
    ∃ x, (c.positions i).head? = some x ∧ isInB c.p x.2.1.name = true ∧ supports c.prog i x.2.1 = true
  eager : ∀ t, t < c.T → issuedBy c t < c.n → ∀ u ∈ c.p.inBoundary, supports c.prog (issuedBy c t) u = true →
    c.full t u = true ∨ (needsMem c.prog (issuedBy c t) u = true ∧ c.memTakenByOther t (issuedBy c t) = true)
  first : ∀ i, i < c.enteredCount →
    ∃ x, (c.positions i).head? = some x ∧ usableAtTurn c x.1 i x.2.1 = true ∧
      ∀ u ∈ c.p.inBoundary, supports c.prog i u = true → u.name < x.2.1.name → usableAtTurn c x.1 i u = false

/-- the Bool checker evaluated by the driver says exactly `C06_Holds` -/
theorem C06_ok_iff (c : Ctx N) : (Spec.C06 c).ok = true ↔ C06_Holds c := by
  simp only [Spec.C06, Clauses.ok_cons, Clauses.ok_nil, and_true, Bool.and_eq_true, all_range_iff,
    Routes.pairsOK_map_range_iff]
  refine (and_congr (and_congr ?_ ?_) (and_congr ?_ (and_congr ?_ ?_))).trans
    ⟨fun ⟨⟨h1, h2⟩, h3, h4, h5⟩ => C06_Holds.mk h1 h2 h3 h4 h5,
      fun h => ⟨⟨h.prefix_, h.ordered⟩, h.port, h.eager, h.first⟩⟩
  all_goals refine forall₂_congr fun i _ => ?_
  · rw [beq_iff_eq, Bool.eq_iff_iff, decide_eq_true_iff]
  · cases c.firstCycle i with
    | none => exact ⟨fun h => (nomatch h), fun ⟨_, _, h, _⟩ => (nomatch h)⟩
    | some x =>
      cases c.firstCycle (i + 1) with
      | none => exact ⟨fun h => (nomatch h), fun ⟨_, _, _, h, _⟩ => (nomatch h)⟩
      | some y =>
        exact ⟨fun h => ⟨x, y, rfl, rfl, of_decide_eq_true h⟩,
          fun ⟨_, _, e1, e2, h⟩ => by cases e1; cases e2; exact decide_eq_true h⟩
  · cases (c.positions i).head? with
    | none => exact ⟨fun h => (nomatch h), fun ⟨_, h, _⟩ => (nomatch h)⟩
    | some x =>
      exact ⟨fun h => ⟨x, rfl, Bool.and_eq_true_iff.1 h⟩, fun ⟨_, e, h⟩ => by cases e; exact Bool.and_eq_true_iff.2 h⟩
  · rw [Bool.or_eq_true, decide_eq_true_eq, List.all_eq_true]
    simp only [Bool.or_assoc, not_or_eq_true]
    simp only [Bool.or_eq_true, Bool.and_eq_true]
    exact ⟨fun h hlt => h.resolve_left (Nat.not_le.2 hlt),
      fun h => (Nat.lt_or_ge (issuedBy c i) c.n).elim (fun hlt => Or.inr (h hlt)) Or.inl⟩
  · cases (c.positions i).head? with
    | none => exact ⟨fun h => (nomatch h), fun ⟨_, h, _⟩ => (nomatch h)⟩
    | some x =>
      simp only [Bool.and_eq_true, List.all_eq_true, not_or_eq_true, Bool.not_eq_true', decide_eq_true_eq, and_imp]
      exact ⟨fun h => ⟨x, rfl, h⟩, fun ⟨_, e, h⟩ => by cases e; exact h⟩

/-- **C06 (readable form).** `ho`: `<` on names is a strict total order (`Loader.StrictTotal.string`, `Loader.StrictTotal.nat`);
it is used for the last clause only ("the usable port whose name sorts first"). -/
theorem C06_issue' (ho : Loader.StrictTotal N) (p : Proc N) (prog : List (Instr N)) (tbl : List (Util N)) (stalled : Bool)
    (hwf : wfProc p = true) (h : Diagram p prog tbl stalled) : C06_Holds (ctx p prog tbl stalled) := by
  obtain ⟨E, hD, hle⟩ := Diagram_issueFacts (structOK_of_wfProc hwf) h
  have hn := wfProc_nodup_names hwf
  have hk := (hD.run stalled).enteredCount_eq hle
  refine ⟨?_, ?_, ?_, ?_, ?_⟩
  · intro i _
    rw [hk]; exact (hD.run stalled).issued_iff i
  · intro i hi
    rw [hk] at hi
    obtain ⟨t1, ht1, a1, b1⟩ := (hD.run stalled).bracket (i := i) (by omega)
    obtain ⟨t2, ht2, a2, b2⟩ := (hD.run stalled).bracket hi
    refine ⟨t1, t2, (hD.run stalled).firstCycle_eq ht1 a1 b1, (hD.run stalled).firstCycle_eq ht2 a2 b2, ?_⟩
    by_cases hlt : t1 ≤ t2
    · exact hlt
    · have := (hD.run stalled).mono (t := t2 + 1) (t' := t1) (by omega) (by omega)
      omega
  · intro i hi
    rw [hk] at hi
    obtain ⟨t, ht, a, b⟩ := (hD.run stalled).bracket hi
    obtain ⟨pre, port, post, st, hs, hh, hu, hpre⟩ := hD.head_of_issued hn stalled ht a b
    refine ⟨(t, port, st), hh, ?_, hu.1⟩
    have hport : port ∈ p.inBoundary := mem_sortedInputs.1 (by rw [hs]; simp)
    unfold isInB
    exact decide_eq_true (List.mem_map.2 ⟨port, hport, rfl⟩)
  · intro t ht hlt u hu hsup
    have ht' : t < tbl.length := ht
    rw [(hD.run stalled).issuedBy_eq hle ht'] at hlt hsup ⊢
    have hlt' : E (t + 1) < prog.length := hlt
    have hb := (hD.cycle t ht').blocked prog[E (t + 1)] (List.getElem?_eq_getElem hlt') u hu
    have := hD.blocked_clause stalled ht' hb
    rw [hsup] at this
    simpa using this
  · intro i hi
    rw [hk] at hi
    obtain ⟨t, ht, a, b⟩ := (hD.run stalled).bracket hi
    obtain ⟨pre, port, post, st, hs, hh, hu, hpre⟩ := hD.head_of_issued hn stalled ht a b
    have hport : port ∈ p.inBoundary := mem_sortedInputs.1 (by rw [hs]; simp)
    refine ⟨(t, port, st), hh,
      (hD.usableAtTurn_iff stalled ht a (mem_allUnits_of_mem_inBoundary hport) hu.1).2 hu, ?_⟩
    intro u huin hsup hlt
    have hnot := hpre u (mem_pre_of_name_lt ho hs huin hlt)
    cases hb : usableAtTurn (ctx p prog tbl stalled) t i u
    · rfl
    · exact absurd ((hD.usableAtTurn_iff stalled ht a (mem_allUnits_of_mem_inBoundary huin) hsup).1 hb) hnot

/-- **C06.** For a well-formed processor over names with a strict total order, every diagram of `simulate` passes the
C06 checker. -/
theorem C06_issue (ho : Loader.StrictTotal N) (p : Proc N) (prog : List (Instr N)) (tbl : List (Util N))
    (stalled : Bool) (hwf : wfProc p = true) (h : Diagram p prog tbl stalled) :
    (Spec.C06 (ctx p prog tbl stalled)).ok = true :=
  (C06_ok_iff _).2 (C06_issue' ho p prog tbl stalled hwf h)

/-- C06 for the driver's name type -/
theorem C06_issue_string (p : Proc String) (prog : List (Instr String)) (tbl : List (Util String)) (stalled : Bool)
    (hwf : wfProc p = true) (h : Diagram p prog tbl stalled) : (Spec.C06 (ctx p prog tbl stalled)).ok = true :=
  C06_issue Loader.StrictTotal.string p prog tbl stalled hwf h

theorem C06_issue_nat (p : Proc Nat) (prog : List (Instr Nat)) (tbl : List (Util Nat)) (stalled : Bool)
    (hwf : wfProc p = true) (h : Diagram p prog tbl stalled) : (Spec.C06 (ctx p prog tbl stalled)).ok = true :=
  C06_issue Loader.StrictTotal.nat p prog tbl stalled hwf h

/-! Non-vacuity. Two input ports: `0` (width 2, capability `7` in its memory ACL, read lock) and `1` (width 1, no ACL, read lock),
both feeding output port `2` (width 2, write lock). Three independent instructions of capability `7`.

Cycle 0: instruction 0 enters port `0` and takes the memory port; instruction 1 finds port `0` with room but
memory-blocked and enters port `1` (the first *usable* port is not the first port); instruction 2 is held back — port
`0` needs the taken memory port, port `1` is full (both reasons of the third clause occur). Cycle 1: 0 and 1 move on,
instruction 2 enters port `0`. -/
namespace C06Example

def inA : UnitM Nat := ⟨0, 2, [7], true, false, [7]⟩
def inB : UnitM Nat := ⟨1, 1, [7], true, false, []⟩
def outP : UnitM Nat := ⟨2, 2, [7], false, true, []⟩
def proc : Proc Nat := { inPorts := [inB, inA], outPorts := [⟨outP, [0, 1]⟩], inOut := [], internal := [] }
def prog : List (Instr Nat) := [⟨[10], 11, 7⟩, ⟨[12], 13, 7⟩, ⟨[14], 15, 7⟩]

example : wfProc proc = true := by decide +kernel

/-- ports are tried by name, not in the stored order -/
example : (sortedInputs proc).map (·.name) = [0, 1] := by decide +kernel

example : (match simulate proc prog with
    | .done tbl =>
      tbl.length == 3 &&
      -- cycle 0: instruction 0 in port 0, instruction 1 in port 1, instruction 2 outside
      ((tbl.getD 0 ([] : List (Nat × List HI))).get 0).map (·.idx) == [0] &&
      ((tbl.getD 0 ([] : List (Nat × List HI))).get 1).map (·.idx) == [1] &&
      issuedBy (ctx proc prog tbl false) 0 == 2 &&
      -- port 0 was not full, but memory-blocked for instruction 1; port 1 is full for instruction 2
      !(ctx proc prog tbl false).full 0 inA && (ctx proc prog tbl false).memTakenByOther 0 2 &&
      (ctx proc prog tbl false).full 0 inB &&
      !usableAtTurn (ctx proc prog tbl false) 0 1 inA && usableAtTurn (ctx proc prog tbl false) 0 1 inB &&
      -- cycle 1: instruction 2 enters port 0
      ((tbl.getD 1 ([] : List (Nat × List HI))).get 0).map (·.idx) == [2] &&
      (ctx proc prog tbl false).firstCycle 2 == some 1 &&
      (Spec.C06 (ctx proc prog tbl false)).ok
    | _ => false) = true := by decide +kernel

def isDone : Outcome Nat → Bool
  | .done _ => true
  | _ => false

/-- the hypotheses of `C06_issue` are satisfiable and the theorem applies to the diagram -/
example : ∃ tbl, Diagram proc prog tbl false ∧ (Spec.C06 (ctx proc prog tbl false)).ok = true ∧
    C06_Holds (ctx proc prog tbl false) := by
  have hd : isDone (simulate proc prog) = true := by decide +kernel
  cases h : simulate proc prog with
  | done tbl =>
    exact ⟨tbl, Or.inl ⟨rfl, h⟩, C06_issue_nat proc prog tbl false (by decide +kernel) (Or.inl ⟨rfl, h⟩),
      C06_issue' Loader.StrictTotal.nat proc prog tbl false (by decide +kernel) (Or.inl ⟨rfl, h⟩)⟩
  | stall tbl => rw [h] at hd; cases hd
  | fault f => rw [h] at hd; cases hd

end C06Example

end ProcSim
