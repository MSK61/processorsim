import ProcSim.Lemmas.LoaderBridge
/-!
# C09 — accepted processor descriptions are well-formed

"Every processor description the loader accepts yields a processor that is acyclic, has positive widths and
case-insensitively unique unit names, has no unit without capabilities and no connection between units sharing no
capability. Every capability offered at an input port can reach an output port through units supporting it, and every
route such a capability can take from an input port to where it ends crosses exactly one read-locking and exactly one
write-locking unit."

* model of `load_proc_desc`: `ProcSim/Model/Loader.lean` (`Loader.load`);
* specification: `ProcSim/Spec/Loader.lean` (`Spec.C09_Holds`, checker `Spec.checkC09`).

`C09_accepted_wellformed` holds for every description, every `fold` and every decidable `<` on names.
`C09_check_iff` holds for **every** processor object, loaded or not.
-/

namespace ProcSim
namespace Loader
open Spec LoaderLocks LoaderRoutes LoaderBridge

variable {N : Type} [DecidableEq N]

section Accepted
variable [LT N] [DecidableRel (α := N) (· < ·)] (fold : N → N)

/-- **C09** -/
theorem C09_accepted_wellformed {d : Desc N} {p : Proc N} (h : Loader.load fold d = .ok p) :
    Spec.C09_Holds fold p := by
  obtain ⟨g0, g2, reg, T, hprep, hmk⟩ := load_pruned fold h
  have hwf2 := T.wf2
  have hac2 := T.acyclic2
  have hE := (rgEquiv_makeProcessor fold hwf2 hmk).on
  have hc2 := connIn_rgOfGraph hwf2
  have hperm := makeProcessor_procNames_perm fold hwf2.namesNodup hmk
  have hall := chkCaps_ok hwf2 hac2 (prepare_ok hprep).2.2.2
  have hsup : ∀ u c, supB p u c = true ↔ c ∈ g2.capsOf u := fun u c => by
    rw [supB_makeProcessor fold hwf2 hmk, decide_eq_true_eq]
  have hinb : ∀ m ∈ p.inBoundary, ∀ c ∈ m.caps, m.name ∈ g2.inPorts ∧ c ∈ g2.capsOf m.name := by
    intro m hm c hc
    obtain ⟨hin, hmu⟩ := inBoundary_makeProcessor fold hwf2 hmk hm
    exact ⟨hin, (hsup _ _).1 (supB_of_mem hmu hc)⟩
  refine ⟨?_, ?_, ?_, ?_, ?_, ?_, ?_, ?_⟩
  · -- predsKnown
    intro f hf q hq
    obtain ⟨n, hn, _, rfl⟩ := (makeProcessor_mem_dests fold hwf2.namesNodup hmk).1 hf
    rw [fuOf_preds, mem_sortNames, Graph.mem_preds] at hq
    exact hperm.mem_iff.2 (hwf2.edgesIn _ hq).1
  · -- acyclic
    exact hE.acyclic_iff.1 ((isAcyclic_iff_acyclic hwf2).1 hac2)
  · -- widths
    intro m hm
    obtain ⟨n, hn, rfl⟩ := (mem_allUnits_makeProcessor fold hwf2 hmk).1 hm
    obtain ⟨x, -, hxn, hpos⟩ := T.origin n hn
    have hw := hxn.width
    show 0 < n.width.toNat
    omega
  · -- uniqueNames
    have hsub : g2.names.Sublist g0.names := names_cleanStruct g0 ▸ T.induced.names_sublist
    exact hperm.symm.pairwise ((createGraph_names_foldDistinct fold T.created).sublist hsub) (fun hxy h' => hxy h'.symm)
  · -- noEmptyUnit: a live unit is fed some capability
    intro m hm
    obtain ⟨n, hn, rfl⟩ := (mem_allUnits_makeProcessor fold hwf2 hmk).1 hm
    obtain ⟨c, hc⟩ := ((T.live n.name).1 (Graph.mem_names.2 ⟨n, hn, rfl⟩)).1
    exact List.ne_nil_of_mem (mem_sortNames.2 ((T.caps n hn c).2 hc))
  · -- compatible: a kept connection joins units fed a common capability
    intro a b hab
    rw [makeProcessor_edgeB fold hwf2 hmk] at hab
    obtain ⟨c, hca, hcb⟩ := ((T.kept a b).1 hab).1.2
    exact ⟨c, (hsup a c).2 ((T.mem_capsOf (hwf2.edgesIn _ hab).1 c).2 hca),
      (hsup b c).2 ((T.mem_capsOf (hwf2.edgesIn _ hab).2 c).2 hcb)⟩
  · -- reachesOutput
    intro m hm c hc
    obtain ⟨hin, hcc⟩ := hinb m hm c hc
    exact (hE.reachesOut_iff hc2 (Graph.mem_inPorts.1 hin).1).1 (hall m.name hin c hcc).2
  · -- exactLocks
    intro m hm c hc
    obtain ⟨hin, hcc⟩ := hinb m hm c hc
    exact (hE.locksExact_iff hc2 (Graph.mem_inPorts.1 hin).1).1 (hall m.name hin c hcc).1

end Accepted

section Checker
variable (fold : N → N)

/-- the connection clause of the checker reads a unit's capabilities off the unit that lists the predecessor; with
pairwise different names that is the unit `supB` finds -/
theorem compatibleClause_iff (p : Proc N) (hn : (procNames p).Nodup) :
    (p.outPorts ++ p.internal).all (fun f => f.preds.all (fun q => f.model.caps.any (fun c => supB p q c))) = true ↔
      ∀ a b, edgeB p a b = true → ∃ c, supB p a c = true ∧ supB p b c = true := by
  simp only [List.all_eq_true, List.any_eq_true]
  constructor
  · intro h a b hab
    obtain ⟨f, hf, hfb, ha⟩ := (edgeB_iff p a b).1 hab
    obtain ⟨c, hc, hca⟩ := h f hf a ha
    exact ⟨c, hca, hfb ▸ supB_of_mem (mem_allUnits_of_dest hf) hc⟩
  · intro h f hf q hq
    obtain ⟨c, hca, hcb⟩ := h q f.model.name ((edgeB_iff p q _).2 ⟨f, hf, rfl, hq⟩)
    refine ⟨c, ?_, hca⟩
    obtain ⟨m, hm, hmc⟩ := List.any_eq_true.1 hcb
    simp only [Bool.and_eq_true, decide_eq_true_eq] at hmc
    rw [← eq_of_map_eq_of_nodup (fun m : UnitM N => m.name) (l := p.allUnits) hn hm (mem_allUnits_of_dest hf) hmc.1]
    exact hmc.2

omit [DecidableEq N] in
theorem inBoundaryClause_iff (p : Proc N) {B : N → N → Bool} {P : N → N → Prop}
    (hB : ∀ m ∈ p.allUnits, ∀ c ∈ m.caps, (B c m.name = true ↔ P c m.name)) :
    p.inBoundary.all (fun m => m.caps.all (fun c => B c m.name)) = true ↔ ∀ m ∈ p.inBoundary, ∀ c ∈ m.caps, P c m.name := by
  simp only [List.all_eq_true]
  exact forall_congr' fun m => forall_congr' fun hm => forall_congr' fun c => forall_congr' fun hc =>
    hB m (mem_allUnits_of_inBoundary hm) c hc

/-- **`checkC09` decides `C09_Holds`** — for every processor object -/
theorem C09_check_iff (p : Proc N) : checkC09 fold p = true ↔ C09_Holds fold p := by
  rw [checkC09_iff_clauses]
  have hconn := connIn_rgOfProc p
  have hnames : ∀ m ∈ p.allUnits, m.name ∈ (rgOfProc p).names := fun m hm => List.mem_map.2 ⟨m, hm, rfl⟩
  have c1 : (p.outPorts ++ p.internal).all (fun f => f.preds.all (fun q => decide (q ∈ procNames p))) = true ↔
      ∀ f ∈ p.outPorts ++ p.internal, ∀ q ∈ f.preds, q ∈ procNames p := by
    simp only [List.all_eq_true, decide_eq_true_eq]
  have c3 : p.allUnits.all (fun m => decide (0 < m.width)) = true ↔ ∀ m ∈ p.allUnits, 0 < m.width := by
    simp only [List.all_eq_true, decide_eq_true_eq]
  have c5 : p.allUnits.all (fun m => !m.caps.isEmpty) = true ↔ ∀ m ∈ p.allUnits, m.caps ≠ [] := by
    simp only [List.all_eq_true, Bool.not_eq_true', ← Bool.not_eq_true, List.isEmpty_iff, ne_eq]
  -- the later clauses rest on what the earlier ones establish: distinct names, no closed walk
  have c6 := fun hu : (procNames p).Pairwise (fun a b => fold a ≠ fold b) =>
    compatibleClause_iff p (hu.imp fun h' heq => h' (congrArg fold heq))
  have c7 := fun hac : (rgOfProc p).Acyclic => inBoundaryClause_iff p (B := (rgOfProc p).reachesOutB)
    fun m hm c hc => reachesOutB_iff _ hconn hac (hnames m hm) (supB_of_mem hm hc)
  have c8 := fun hac : (rgOfProc p).Acyclic => inBoundaryClause_iff p (B := (rgOfProc p).locksExactB)
    fun m hm c hc => locksExactB_iff _ hconn hac (hnames m hm) (supB_of_mem hm hc)
  rw [c1, acyclicB_iff _ hconn, c3, uniqueUpToFold_iff, c5]
  constructor
  · rintro ⟨h1, h2, h3, h4, h5, h6, h7, h8⟩
    exact ⟨h1, h2, h3, h4, h5, (c6 h4).1 h6, (c7 h2).1 h7, (c8 h2).1 h8⟩
  · intro h
    exact ⟨h.predsKnown, h.acyclic, h.widths, h.uniqueNames, h.noEmptyUnit, (c6 h.uniqueNames).2 h.compatible,
      (c7 h.acyclic).2 h.reachesOutput, (c8 h.acyclic).2 h.exactLocks⟩

end Checker

namespace C09Examples

def u (n : Nat) (w : Int) (caps : List Nat) (rd wr : Bool) : UnitD Nat := ⟨n, w, caps, rd, wr, []⟩

/-- a diamond `1 → 2 → 4`, `1 → 3 → 4`; the read lock sits at the input port, the write lock at the output port -/
def dOk : Desc Nat :=
  ⟨[u 1 1 [10] true false, u 2 1 [10] false false, u 3 2 [10] false false, u 4 1 [10] false true],
   [[1, 2], [1, 3], [2, 4], [3, 4]]⟩

example : (load id dOk).isOk = true := by decide +kernel
example : (match load id dOk with | .ok p => checkC09 id p | .error _ => false) = true := by decide +kernel
example : (match load id dOk with
    | .ok p => (p.inPorts.map (·.name), p.outPorts.map (·.model.name), p.internal.map (·.model.name))
    | .error _ => ([], [], [])) = ([1], [4], [2, 3]) := by decide +kernel
example : ∀ p, load id dOk = .ok p → C09_Holds id p := fun _ h => C09_accepted_wellformed id h

/-- the checker is not trivially true: a route with two read locks / a unit without capabilities / a cycle -/
example : checkC09 id (⟨[⟨1, 1, [10], true, true, []⟩], [⟨⟨2, 1, [10], true, false, []⟩, [1]⟩], [], []⟩ : Proc Nat) = false := by
  decide +kernel
example : checkC09 id (⟨[], [], [⟨1, 1, [], true, true, []⟩], []⟩ : Proc Nat) = false := by decide +kernel
example : checkC09 id (⟨[], [], [], [⟨⟨1, 1, [10], true, true, []⟩, [2]⟩, ⟨⟨2, 1, [10], false, false, []⟩, [1]⟩]⟩ : Proc Nat) = false := by
  decide +kernel
example : checkC09 id (⟨[], [], [⟨1, 1, [10], true, true, []⟩], []⟩ : Proc Nat) = true := by decide +kernel

end C09Examples

end Loader
end ProcSim
