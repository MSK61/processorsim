import ProcSim.Props.C01
/-!
# C02 — data stalls are exact: wait iff an older conflicting access is outstanding

"An instruction that arrives in, or is already waiting in, a unit that locks registers is shown data-stalled (`D`) in a
cycle exactly when some older instruction has not, before that cycle, performed a conflicting access to a register the
unit must lock for it (its sources under a read lock, its destination under a write lock); otherwise it is shown
unstalled (`U`) in that cycle. An instruction never waits on itself and is never data-stalled in a unit without locks."

The checker is `Spec.C02` with `Spec.mustWait`. The proof rests on `labelOf_exact` (`ProcSim/Lemmas/Hazards.lean`; state
level: `_regs_avail` never raises and refuses iff `mustWait`), which comes from the queue invariant `PlanInv` and
`examined_facts_origin` (`ProcSim/Lemmas/HazardInv.lean`): an examined instruction has not been granted the accesses its
unit locks, and in a unit with the write lock only it has already performed its read — from `wfProc`'s route condition.

Hypotheses: `wfProc p` and `ProgOK prog` (no repeated source register in an instruction; guaranteed by the
`HwInstruction` constructor of the real code).
-/
namespace ProcSim
open Spec Hazards

attribute [local implicit_reducible] AMap

variable {N : Type} [DecidableEq N]

/-- C02, readable form: for every label `l` shown for instruction `i` in unit `u` in cycle `t`,
* if `l` is not `S` (the instruction is examined in that cycle), `l` is `D` exactly when `mustWait` holds — hence `U`
  exactly when it does not;
* `l` is `D` only in a unit holding a lock. -/
def C02_Holds (c : Ctx N) : Prop :=
  ∀ i t u l, i < c.n → (t, u, l) ∈ c.positions i →
    (l ≠ .S → (l = .D ↔ mustWait c i t u = true)) ∧ (l = .D → u.rd = true ∨ u.wr = true)

private theorem labelClause_iff (l : Stall) (m : Bool) :
    (l == .S || ((l == .D) == m)) = true ↔ (l ≠ .S → (l = .D ↔ m = true)) := by
  cases l <;> cases m <;> decide

private theorem lockClause_iff (l : Stall) (rd wr : Bool) :
    (!(l == .D) || rd || wr) = true ↔ (l = .D → rd = true ∨ wr = true) := by
  cases l <;> cases rd <;> cases wr <;> decide

theorem C02_ok_iff (c : Ctx N) : (Spec.C02 c).ok = true ↔ C02_Holds c := by
  simp only [Spec.C02, Clauses.ok_cons, Clauses.ok_nil, and_true, List.all_eq_true, List.mem_flatMap, List.mem_range,
    List.mem_map, C02_Holds]
  constructor
  · rintro ⟨h1, h2⟩ i t u l hi hpos
    exact ⟨(labelClause_iff l _).1 (h1 (i, t, u, l) ⟨i, hi, (t, u, l), hpos, rfl⟩),
      (lockClause_iff l _ _).1 (h2 (i, t, u, l) ⟨i, hi, (t, u, l), hpos, rfl⟩)⟩
  · intro h
    constructor <;> rintro _ ⟨i, hi, ⟨t, u, l⟩, hpos, rfl⟩
    · exact (labelClause_iff l _).2 (h i t u l hi hpos).1
    · exact (lockClause_iff l _ _).2 (h i t u l hi hpos).2

variable [LT N] [DecidableRel (α := N) (· < ·)]

/-- **C02 (readable form).** -/
theorem C02_data_stall_exact_readable (p : Proc N) (prog : List (Instr N)) (tbl : List (Util N)) (stalled : Bool)
    (hwf : wfProc p = true) (hp : ProgOK prog) (h : Diagram p prog tbl stalled) :
    C02_Holds (ctx p prog tbl stalled) := by
  intro i t u l hi hpos
  obtain ⟨hT, hu, hm⟩ := mem_positions.1 hpos
  have hT' : t < tbl.length := hT
  have hu' : u ∈ p.allUnits := hu
  obtain ⟨s, lab, qs, hinv, htab, hlab, _, hrow⟩ := row_view hwf hp h hT'
  have hm : (⟨i, l⟩ : HI) ∈ lab.1.get u.name := by rw [← hrow]; exact hm
  obtain ⟨⟨y, hy, hyi⟩, hl⟩ := label_view hwf hlab hu' hm
  obtain ⟨ins, hins⟩ := exists_getElem?_of_lt (show i < prog.length from hi)
  have hF := fillCycle_issueInv prog s.util s.entered (wfProc_nodup_names hwf) (wfProc_orderOK hwf)
  have ho := hF.origin u.name y hy
  rw [hyi] at ho
  have hlabel : l ≠ .S → l = if mustWait (ctx p prog tbl stalled) i t u = true then Stall.D else Stall.U := by
    intro hS
    have hwl : wasLoaded (s.util.get u.name) i = false := by
      cases hw : wasLoaded (s.util.get u.name) i with
      | false => rfl
      | true => exact absurd (hl.trans ((labelOf_eq_S_iff _ _ _ _ _).2 hw)) hS
    rw [hl]
    exact labelOf_exact hwf hinv hu' ho hwl hins tbl stalled
      (fun k j => by rw [doneBefore_eq, htab, grantedB_reverse])
  refine ⟨fun hS => ?_, fun hD => ?_⟩
  · have := hlabel hS
    by_cases hmust : mustWait (ctx p prog tbl stalled) i t u = true
    · rw [if_pos hmust] at this; simp [this, hmust]
    · rw [if_neg hmust] at this; simp [this, hmust]
  · have := hlabel (by rw [hD]; decide)
    by_cases hmust : mustWait (ctx p prog tbl stalled) i t u = true
    · unfold mustWait at hmust
      simp only [Bool.or_eq_true, Bool.and_eq_true] at hmust
      rcases hmust with ⟨h1, _⟩ | ⟨h1, _⟩
      · exact Or.inl h1
      · exact Or.inr h1
    · rw [if_neg hmust, hD] at this; cases this

/-- **C02.** For a well-formed processor and a program whose instructions list no source twice, every diagram of
`simulate` (returned, or carried by the stall error) passes the C02 checker: an examined instruction is shown `D`
exactly when an older conflicting access is outstanding (else `U`), and never `D` in a unit without locks. -/
theorem C02_data_stall_exact (p : Proc N) (prog : List (Instr N)) (tbl : List (Util N)) (stalled : Bool)
    (hwf : wfProc p = true) (hp : ProgOK prog) (h : Diagram p prog tbl stalled) :
    (Spec.C02 (ctx p prog tbl stalled)).ok = true :=
  (C02_ok_iff _).2 (C02_data_stall_exact_readable p prog tbl stalled hwf hp h)

/-- **No fault**: `can_access` is never asked on an emptied queue and no deferred
`dequeue` raises — the only fault outcome the model can produce is running out of fuel. -/
theorem C02_no_queue_fault (p : Proc N) (prog : List (Instr N)) (hwf : wfProc p = true) (hp : ProgOK prog) :
    simulate p prog ≠ .fault .queueEmpty ∧ simulate p prog ≠ .fault .badDequeue :=
  no_queue_fault hwf hp

/-! ## Non-vacuity

Same processor and program as in `Props/C01.lean`: capability `7` passes the read-locking input port `0` and the
write-locking output port `1` (both width 1); capability `8` is served by the in-out port `2` (width 2, both locks).

    I0: R1 := f(R2, R3)   cap 7
    I1: R4 := f(R1)       cap 8     RAW on R1 with I0
    I2: R2 := f(R5)       cap 8     WAR on R2 with I0
    I3: R4 := f(R6)       cap 7     WAW on R4 with I1
    I4: R7 := f(R1, R7)   cap 8     reads its own destination; RAW on R1 with I0 -/
namespace C02Example

def rdU : UnitM Nat := ⟨0, 1, [7], true, false, []⟩
def wrU : UnitM Nat := ⟨1, 1, [7], false, true, []⟩
def bothU : UnitM Nat := ⟨2, 2, [8], true, true, []⟩
def proc : Proc Nat := { inPorts := [rdU], outPorts := [⟨wrU, [0]⟩], inOut := [bothU], internal := [] }
def prog : List (Instr Nat) :=
  [⟨[2, 3], 1, 7⟩, ⟨[1], 4, 8⟩, ⟨[5], 2, 8⟩, ⟨[6], 4, 7⟩, ⟨[1, 7], 7, 8⟩]

def table : List (Util Nat) :=
  [ [(2, [⟨1, .D⟩, ⟨2, .D⟩]), (1, []), (0, [⟨0, .U⟩])],
    [(2, [⟨1, .D⟩, ⟨2, .U⟩]), (1, [⟨0, .U⟩]), (0, [⟨3, .U⟩])],
    [(2, [⟨1, .U⟩, ⟨4, .U⟩]), (1, [⟨3, .D⟩]), (0, [])],
    [(2, []), (1, [⟨3, .U⟩]), (0, [])] ]

example : wfProc proc = true := by decide +kernel
example : progOK prog = true := by decide +kernel

open C01Example (isDoneWith)

theorem sim_eq : simulate proc prog = .done table := C01Example.sim_eq

example : Diagram proc prog table false ∧ (Spec.C02 (ctx proc prog table false)).ok = true :=
  ⟨Or.inl ⟨rfl, sim_eq⟩,
   C02_data_stall_exact proc prog table false (by decide +kernel) ((progOK_iff prog).1 (by decide +kernel)) (Or.inl ⟨rfl, sim_eq⟩)⟩

-- the checker agrees by evaluation
example : (Spec.C02 (ctx proc prog table false)).ok = true := by decide +kernel
-- cycle 0: I1 (RAW on R1) and I2 (WAR on R2: I0 reads R2 in this very cycle, not before it) must wait in unit 2
example : mustWait (ctx proc prog table false) 1 0 bothU = true ∧
    mustWait (ctx proc prog table false) 2 0 bothU = true := by decide +kernel
-- cycle 1: I0's read is done, I2 goes; I1 still waits for I0's write, performed in this cycle
example : mustWait (ctx proc prog table false) 2 1 bothU = false ∧
    mustWait (ctx proc prog table false) 1 1 bothU = true := by decide +kernel
-- cycle 2: I1 goes; the self-dependent I4 does not wait on itself (read and write of R7 granted together);
-- I3 (WAW on R4 with I1, whose write is performed in this cycle) waits in the write-locking unit 1
example : mustWait (ctx proc prog table false) 1 2 bothU = false ∧
    mustWait (ctx proc prog table false) 4 2 bothU = false ∧
    mustWait (ctx proc prog table false) 3 2 wrU = true := by decide +kernel
-- cycle 3: I3 goes
example : mustWait (ctx proc prog table false) 3 3 wrU = false := by decide +kernel
-- a diagram that shows I1 unstalled too early (cycle 1) is rejected: a missing stall …
example : (Spec.C02 (ctx proc prog
    [ [(2, [⟨1, .D⟩]), (0, [⟨0, .U⟩])], [(2, [⟨1, .U⟩]), (1, [⟨0, .U⟩])] ] false)).ok = false := by decide +kernel
-- … and so is a spurious stall (I2 shown `D` in cycle 1 although I0 has read R2 in cycle 0)
example : (Spec.C02 (ctx proc prog
    [ [(2, [⟨1, .D⟩, ⟨2, .D⟩]), (0, [⟨0, .U⟩])], [(2, [⟨1, .D⟩, ⟨2, .D⟩]), (1, [⟨0, .U⟩])] ] false)).ok = false := by
  decide +kernel
-- the situation of defect D1 (a self-dependent instruction alone in a unit with both locks) does not dead-lock
example : isDoneWith (simulate proc [⟨[1, 2], 1, 8⟩]) [ [(2, [⟨0, .U⟩]), (1, [])] ] = true := by decide +kernel

end C02Example

end ProcSim
