import ProcSim.Lemmas.LoadedRoutes
import ProcSim.Props.C16b
import ProcSim.Props.C09
import ProcSim.Props.C01
import ProcSim.Props.C02
import ProcSim.Props.C06
import ProcSim.Props.C07
import ProcSim.Props.C08
/-!
# Loaded processors are well-formed (`wfProc`) as soon as the read lock is not after the write lock

The simulator theorems quantify over processors satisfying `Spec.wfProc`. `Lemmas/LoadedRoutes.lean` reduces it to
(`wfProc_iff_struct_counts_order`)

* `structOK p` — names unique, sink-first order, predecessors duplicate-free (every loaded processor:
  `loaded_structOK`, `Props/C16b.lean`),
* every unit has a capability (every loaded processor: C09, `noEmptyUnit`),
* `lockCountsAll p` — every maximal capability route from an input-boundary port crosses exactly one read-locking and
  one write-locking unit (every loaded processor: C09, `exactLocks`, through the bridge between the two route
  enumerations `routesFrom_map_mem`),
* `readNotAfterWrite p` — on each of these routes the read-locking unit is not after the write-locking unit. **This
  the loader does not check** (`LoadedWFExamples.swapped`: an accepted description whose processor violates it), so
  it remains a hypothesis.

`loaded_wfProc` — a loaded processor with `readNotAfterWrite` satisfies `wfProc`; hence C01, C02, C06, C07, C08 hold
for it (C03, C04, C05 hold for every loaded processor, `Props/C16b.lean`).
-/
namespace ProcSim
open Spec

variable {N : Type} [DecidableEq N] [LT N] [DecidableRel (α := N) (· < ·)]

theorem loaded_caps_lockCounts (fold : N → N) {d : Loader.Desc N} {p : Proc N}
    (h : Loader.load fold d = .ok p) (hn : (p.allUnits.map (·.name)).Nodup) :
    p.allUnits.all (fun u => !u.caps.isEmpty) = true ∧ lockCountsAll p = true := by
  have h09 := Loader.C09_accepted_wellformed fold h
  refine ⟨?_, ?_⟩
  · rw [List.all_eq_true]
    intro u hu
    have := h09.noEmptyUnit u hu
    cases hc : u.caps with
    | nil => exact absurd hc this
    | cons a l => rfl
  · unfold lockCountsAll
    rw [routesAll_iff]
    intro c _ s hs hcs r hr
    exact lockCountsOK_of_locksExact hn h09.acyclic (mem_allUnits_of_mem_inBoundary hs) hcs
      (h09.exactLocks s hs c hcs) r hr

/-- **A loaded processor whose read locks are not after its write locks is well-formed.** -/
theorem loaded_wfProc (ho : Loader.StrictTotal N) (fold : N → N) {d : Loader.Desc N} {p : Proc N}
    (h : Loader.load fold d = .ok p) (hrw : readNotAfterWrite p = true) : wfProc p = true := by
  have hs := loaded_structOK ho fold h
  obtain ⟨h1, h2⟩ := loaded_caps_lockCounts fold h (structOK_nodup_names hs)
  exact (wfProc_iff_struct_counts_order p).2 ⟨hs, h1, h2, hrw⟩

/-- for a loaded processor `wfProc` says exactly `readNotAfterWrite` -/
theorem loaded_wfProc_iff (ho : Loader.StrictTotal N) (fold : N → N) {d : Loader.Desc N} {p : Proc N}
    (h : Loader.load fold d = .ok p) : wfProc p = true ↔ readNotAfterWrite p = true :=
  ⟨fun hw => ((wfProc_iff_struct_counts_order p).1 hw).2.2.2, loaded_wfProc ho fold h⟩

section corollaries
variable (ho : Loader.StrictTotal N) (fold : N → N) {d : Loader.Desc N} {p : Proc N}
  (hl : Loader.load fold d = .ok p) (hrw : readNotAfterWrite p = true)
  (prog : List (Instr N)) (tbl : List (Util N)) (stalled : Bool)
include ho hl hrw

/-- **C01 for loaded processors.** -/
theorem C01_loaded (hp : Hazards.ProgOK prog) (h : Diagram p prog tbl stalled) :
    (Spec.C01 (ctx p prog tbl stalled)).ok = true :=
  C01_hazard_order p prog tbl stalled (loaded_wfProc ho fold hl hrw) hp h

/-- **C02 for loaded processors.** -/
theorem C02_loaded (hp : Hazards.ProgOK prog) (h : Diagram p prog tbl stalled) :
    (Spec.C02 (ctx p prog tbl stalled)).ok = true :=
  C02_data_stall_exact p prog tbl stalled (loaded_wfProc ho fold hl hrw) hp h

/-- **C06 for loaded processors.** -/
theorem C06_loaded (h : Diagram p prog tbl stalled) : (Spec.C06 (ctx p prog tbl stalled)).ok = true :=
  C06_issue ho p prog tbl stalled (loaded_wfProc ho fold hl hrw) h

/-- **C07 for loaded processors.** -/
theorem C07_loaded (h : Diagram p prog tbl stalled) : (Spec.C07 (ctx p prog tbl stalled)).ok = true :=
  C07_advance p prog tbl stalled (loaded_wfProc ho fold hl hrw) h

/-- **C08 for loaded processors.** -/
theorem C08_loaded (hp : Hazards.ProgOK prog) (h : Diagram p prog tbl stalled) :
    (Spec.C08 (ctx p prog tbl stalled)).ok = true :=
  C08_genuine_deadlock p prog tbl stalled (loaded_wfProc ho fold hl hrw) hp h

/-- the run of a loaded processor ends with a diagram or the stall error, never with a fault -/
theorem C08_no_fault_loaded (hp : Hazards.ProgOK prog) :
    ∃ tbl, simulate p prog = .done tbl ∨ simulate p prog = .stall tbl :=
  C08_no_fault p prog (loaded_wfProc ho fold hl hrw) hp

end corollaries

namespace LoadedWFExamples

/-- the fork/join processor of `C16bExamples` (text-level names): loaded, `readNotAfterWrite`, hence `wfProc` -/
example : (match Loader.load ICase.lower C16bExamples.desc with
    | .ok p => readNotAfterWrite p && wfProc p
    | .error _ => false) = true := by decide +kernel

example : ∀ p, Loader.load ICase.lower C16bExamples.desc = .ok p → readNotAfterWrite p = true → wfProc p = true :=
  fun _ h hrw => loaded_wfProc Loader.StrictTotal.listChar ICase.lower h hrw

/-- the DAG description of `Loader.C12Examples.exDesc` (`Nat` names) -/
example : (match Loader.load id Loader.C12Examples.exDesc with
    | .ok p => readNotAfterWrite p && wfProc p
    | .error _ => false) = true := by decide +kernel

/-- **The hypothesis cannot be dropped**: the loader accepts a chain whose input port holds the *write* lock and
whose output port holds the *read* lock (one of each on the only route, as C09 demands); the processor satisfies
`structOK` and `lockCountsAll` but neither `readNotAfterWrite` nor `wfProc`. -/
def swapped : Loader.Desc Nat :=
  ⟨[⟨1, 1, [100], false, true, []⟩, ⟨2, 1, [100], true, false, []⟩], [[1, 2]]⟩

example : (match Loader.load id swapped with
    | .ok p => structOK p && lockCountsAll p && !readNotAfterWrite p && !wfProc p
    | .error _ => false) = true := by decide +kernel

end LoadedWFExamples

end ProcSim
