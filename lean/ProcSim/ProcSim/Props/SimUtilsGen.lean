import ProcSim.Gen.SimUtils
import ProcSim.Model.Sim
/-!
# Translator tie for `src/sim_services/_utils.py` (leaf predicates of C04 and C05)

`ProcSim.Gen.sim_utils` is **generated** from the Python source by `checks/py2lean.py` on every check run.  The two
functions are the tests every move and every issue makes before an instruction enters a unit:

* `unit_full(width, unit_util)`   — the fullness test of C04 (`len(unit_util) == width`);
* `mem_unavail(mem_busy, mem_req)` — the memory-port test of C05 (`mem_busy and mem_req`, consumed by truthiness).

The theorems say that the generated code computes exactly the tests the simulator model (`fillLoop`, `tryPorts` in
`ProcSim/Model/Sim.lean`) makes at those points, and never raises.
-/
namespace ProcSim.GenTie
open PyLite ProcSim ProcSim.Gen.sim_utils

/-- the translated `unit_full` never raises and is the model's test `cur.length = width` -/
theorem gen_unit_full (width : Nat) (cur : List Nat) :
    unit_full width cur = .ok (decide (cur.length = width)) := by
  simp [unit_full, pyEq, PyEq.pyEq, pyLen, PyLen.pyLen, pure, Except.pure]

/-- the translated `mem_unavail` never raises and is the model's test `mem && ma` -/
theorem gen_mem_unavail (mem ma : Bool) : mem_unavail mem ma = .ok (mem && ma) := by
  cases mem <;> cases ma <;> rfl

/-- the step of the model's fill loop (`UnitSink._fill` / `_mov_candidate`) written with the translated predicates: a
candidate is taken iff the unit is not full and the memory port is not unavailable for it -/
theorem fillLoop_cons_gen {N : Type} [DecidableEq N] (prog : List (Instr N)) (d : UnitM N) (c : N × Nat) (cs : List (N × Nat))
    (cur : List HI) (mem : Bool) (moved : List (N × Nat)) :
    fillLoop prog d (c :: cs) cur mem moved =
      (match unit_full d.width (cur.map (·.idx)), mem_unavail mem (capIn prog c.2 d.acl) with
       | .ok true, _ => (cur, mem, moved)
       | .ok false, .ok true => fillLoop prog d cs cur mem moved
       | .ok false, .ok false =>
           fillLoop prog d cs (cur ++ [⟨c.2, .U⟩]) (mem || capIn prog c.2 d.acl) (moved ++ [c])
       | _, _ => (cur, mem, moved)) := by
  rw [gen_unit_full, gen_mem_unavail]
  simp only [fillLoop, List.length_map]
  by_cases h : cur.length = d.width
  · simp [h]
  · simp only [h, if_false, decide_false]
    cases hm : (mem && capIn prog c.2 d.acl) <;> simp

/-- the step of the model's issue loop (`_accept_in_unit`) written with the translated predicates -/
theorem tryPorts_cons_gen {N : Type} [DecidableEq N] (cap : N) (i : Nat) (port : UnitM N) (ps : List (UnitM N))
    (u : Util N) (mem : Bool) (hc : cap ∈ port.caps) :
    tryPorts cap i (port :: ps) u mem =
      (match mem_unavail mem (decide (cap ∈ port.acl)), unit_full port.width ((u.get port.name).map (·.idx)) with
       | .ok false, .ok false =>
           some (u.set port.name (u.get port.name ++ [⟨i, .U⟩]), mem || decide (cap ∈ port.acl))
       | _, _ => tryPorts cap i ps u mem) := by
  rw [gen_unit_full, gen_mem_unavail]
  simp only [tryPorts, hc, if_true, List.length_map]
  cases hm : (mem && decide (cap ∈ port.acl)) <;> by_cases h : (u.get port.name).length = port.width <;> simp [h]

example : (unit_full 2 [7, 9]).toOption = some true := by decide +kernel
example : (unit_full 2 [7]).toOption = some false := by decide +kernel
example : (mem_unavail true true).toOption = some true := by decide +kernel
example : (mem_unavail true false).toOption = some false := by decide +kernel

end ProcSim.GenTie
