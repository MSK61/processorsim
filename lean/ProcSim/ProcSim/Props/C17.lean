import ProcSim.Lemmas.Bag
import ProcSim.Lemmas.Checker
import ProcSim.Model.Sim
/-!
# C17 — cycle records (`BagValDict`) compare as multisets per unit

`NoDupKeys m` of the property text is `(AMap.keys m).Nodup` (true of every record built through `AMap.set`, i.e. of
every `dict`); `TotalOrderB le` (Spec/Text.lean) = total ∧ transitive ∧ antisymmetric. A missing key counts as an
empty list; insertion order of keys and of entries is irrelevant. The real `__eq__` inserts empty lists into `self`
through its `defaultdict` look-ups (`Bag.beqM`): it returns the same Boolean and changes no `get`, `items`, `len`,
`repr`, nor a later comparison. The simulator's stall test `Util.beq` is this equality at `le := HI.le`, a total
antisymmetric order: the stall test is multiset equality per unit. The examples show that neither hypothesis
(duplicate-free keys, antisymmetry) can be dropped. The proofs are in `Lemmas/Sort.lean` and `Lemmas/Bag.lean`.
-/
namespace ProcSim

open Spec.Text List
open Bag (BagValDict)
open ISort

attribute [local implicit_reducible] AMap

section C17
variable {K V : Type} [DecidableEq K] [DecidableEq V]

/-- **C17 (equality).** For a total order `le` on values and records with duplicate-free keys:
`a == b` iff under every key the two entry lists are permutations of each other. -/
theorem C17_eq_iff_multiset {le : V → V → Bool} (hle : TotalOrderB le) {a b : BagValDict K V}
    (ha : (AMap.keys a).Nodup) (hb : (AMap.keys b).Nodup) :
    Bag.beq le a b = true ↔ C17_SameBags a b :=
  (Bag.beq_iff_sameBags hle.1 hle.2.1 hle.2.2 ha hb).trans Bag.C17_SameBags_iff.symm

/-- the direction `==` ⇒ same multisets needs nothing of `le` (sorting never changes the multiset) -/
theorem C17_eq_imp_multiset (le : V → V → Bool) {a b : BagValDict K V}
    (ha : (AMap.keys a).Nodup) (hb : (AMap.keys b).Nodup) (h : Bag.beq le a b = true) : C17_SameBags a b :=
  Bag.C17_SameBags_iff.2 (Bag.sameBags_of_beq ha hb h)

/-- `==` is symmetric; this holds for every `le` (`Bag.beq_comm`), the order laws are not used -/
theorem C17_eq_symm {le : V → V → Bool} (hle : TotalOrderB le) {a b : BagValDict K V}
    (ha : (AMap.keys a).Nodup) (hb : (AMap.keys b).Nodup) : Bag.beq le a b = Bag.beq le b a :=
  Bag.beq_comm ha hb

/-- **C17 (touch-invariance).** The side-effecting `__eq__` returns the Boolean of the pure reading and leaves
every look-up unchanged. No hypothesis. -/
theorem C17_beqM (le : V → V → Bool) (a b : BagValDict K V) :
    (Bag.beqM le a b).1 = Bag.beq le a b ∧ ∀ k, Bag.get (Bag.beqM le a b).2 k = Bag.get a k :=
  ⟨(Bag.beqM_spec le a b).1, (Bag.beqM_spec le a b).2.1⟩

/-- … nor `items`, `len`, `repr`, nor the result of any later comparison of the touched record. -/
theorem C17_beqM_observables (leK : K → K → Bool) (le : V → V → Bool) (kp : K → String) (vp : V → String)
    (a b : BagValDict K V) :
    Bag.items (Bag.beqM le a b).2 = Bag.items a ∧ Bag.len (Bag.beqM le a b).2 = Bag.len a ∧
    Bag.repr leK le kp vp (Bag.beqM le a b).2 = Bag.repr leK le kp vp a ∧
    ∀ c, Bag.beq le (Bag.beqM le a b).2 c = Bag.beq le a c := by
  obtain ⟨_, h2, h3⟩ := Bag.beqM_spec le a b
  exact ⟨h3, Bag.len_congr h3, Bag.repr_congr leK le kp vp h3, Bag.beq_congr le h2 h3⟩

omit [DecidableEq V] in
/-- **C17 (length).** `len` is the number of distinct keys holding at least one entry. -/
theorem C17_len {a : BagValDict K V} (ha : (AMap.keys a).Nodup) : Bag.len a = nonEmptyKeys a := by
  unfold nonEmptyKeys Bag.len Bag.items
  rw [dedup_eq_self ha]
  unfold AMap.keys
  rw [filter_map, length_map]
  congr 1
  apply filter_congr
  rintro ⟨k, vs⟩ hp
  simp only [Function.comp]
  rw [Bag.get_of_mem ha hp]

omit [DecidableEq V] in
/-- **C17 (printing).** Equal records print identically — for arbitrary printers of keys and values. -/
theorem C17_repr {leK : K → K → Bool} {le : V → V → Bool} (hle : TotalOrderB le) (hleK : TotalOrderB leK)
    (kp : K → String) (vp : V → String) {a b : BagValDict K V}
    (ha : (AMap.keys a).Nodup) (hb : (AMap.keys b).Nodup) (h : C17_SameBags a b) :
    Bag.repr leK le kp vp a = Bag.repr leK le kp vp b := by
  unfold Bag.repr Bag.formatElems
  rw [Bag.canonEntries_eq_of_sameBags hle.1 hle.2.1 hle.2.2 hleK.1 hleK.2.1 hleK.2.2 ha hb
    (Bag.C17_SameBags_iff.1 h)]

theorem C17_repr_of_eq {leK : K → K → Bool} {le : V → V → Bool} (hle : TotalOrderB le) (hleK : TotalOrderB leK)
    (kp : K → String) (vp : V → String) {a b : BagValDict K V}
    (ha : (AMap.keys a).Nodup) (hb : (AMap.keys b).Nodup) (h : Bag.beq le a b = true) :
    Bag.repr leK le kp vp a = Bag.repr leK le kp vp b :=
  C17_repr hle hleK kp vp ha hb ((C17_eq_iff_multiset hle ha hb).1 h)

/-- **C17.** The model's observation on any pair of records with duplicate-free keys satisfies the property. -/
theorem C17_model {leK : K → K → Bool} {le : V → V → Bool} (hle : TotalOrderB le) (hleK : TotalOrderB leK)
    (kp : K → String) (vp : V → String) {a b : BagValDict K V}
    (ha : (AMap.keys a).Nodup) (hb : (AMap.keys b).Nodup) :
    C17_Holds a b (modelBagObs leK le kp vp a b) := by
  obtain ⟨h1, h2, h3⟩ := Bag.beqM_spec le a b
  have h4 := (Bag.beqM_spec le (Bag.beqM le a b).2 b).1
  refine ⟨?_, C17_eq_iff_multiset hle hb ha, ?_, C17_len ha, C17_len hb, Bag.len_congr h3,
    C17_repr hle hleK kp vp ha hb, Bag.repr_congr leK le kp vp h3⟩
  · show (Bag.beqM le a b).1 = true ↔ _
    rw [h1]
    exact C17_eq_iff_multiset hle ha hb
  · show (Bag.beqM le (Bag.beqM le a b).2 b).1 = (Bag.beqM le a b).1
    rw [h4, h1]
    exact Bag.beq_congr le h2 h3 b

/-- the executable checker decides exactly `C17_Holds` (no hypothesis on the records is needed) -/
theorem checkC17_iff (a b : BagValDict K V) (o : BagObs) : checkC17 a b o = none ↔ C17_Holds a b o := by
  simp only [checkC17, ite_some_eq_none, C17_Holds, ← sameBagsB_iff, bne_eq_false_iff_eq, and_true,
    Bool.and_eq_false_imp, bne_eq_false_iff_eq]
  constructor
  · rintro ⟨h1, h2, h3, h4, h5, h6, h7, h8⟩
    exact ⟨by rw [h1], by rw [h2], h3, h4, h5, h6, h7, h8⟩
  · rintro ⟨h1, h2, h3, h4, h5, h6, h7, h8⟩
    exact ⟨Bool.eq_iff_iff.2 h1, Bool.eq_iff_iff.2 h2, h3, h4, h5, h6, h7, h8⟩

end C17

theorem Stall.rank_inj {s t : Stall} (h : s.rank = t.rank) : s = t := by
  cases s <;> cases t <;> first | rfl | cases h

/-- attrs' order on `InstrState` (`HI.le`) is a total, transitive, antisymmetric order -/
theorem HI_le_totalOrder : TotalOrderB HI.le := by
  -- `HI.le x y` is the lexicographic comparison of `(idx, rank of the label)`
  have hle : ∀ x y : HI, HI.le x y = true ↔ x.idx < y.idx ∨ x.idx = y.idx ∧ x.st.rank ≤ y.st.rank := by
    intro x y
    simp only [HI.le, Bool.or_eq_true, decide_eq_true_eq, Bool.and_eq_true, beq_iff_eq]
  refine ⟨fun x y => ?_, fun x y z => ?_, fun x y => ?_⟩
  · rw [hle, hle]
    omega
  · rw [hle, hle, hle]
    omega
  · rw [hle, hle]
    intro h1 h2
    obtain ⟨xi, xs⟩ := x
    obtain ⟨yi, ys⟩ := y
    simp only at h1 h2
    have hi : xi = yi := by omega
    have hs : xs.rank = ys.rank := by omega
    rw [hi, Stall.rank_inj hs]

section Util
variable {N : Type} [DecidableEq N]

/-- the simulator's record comparison is `BagValDict.__eq__` at `le := HI.le` -/
theorem Util_beq_eq_Bag_beq (u v : Util N) : Util.beq u v = Bag.beq HI.le u v := by
  unfold Util.beq Bag.beq
  rw [Bag.allItemsMatch_eq_all]
  rfl

/-- hence the stall test of `simulate` is multiset equality per unit (records of the simulator have duplicate-free
keys: they are built by `AMap.set`) -/
theorem Util_beq_iff_multiset {u v : Util N} (hu : (AMap.keys u).Nodup) (hv : (AMap.keys v).Nodup) :
    Util.beq u v = true ↔ ∀ n, (Util.get u n) ~ (Util.get v n) := by
  rw [Util_beq_eq_Bag_beq]
  exact C17_eq_iff_multiset HI_le_totalOrder hu hv

end Util

section examples

private def leN (x y : Nat) : Bool := decide (x ≤ y)
private def kpN (k : Nat) : String := toString k
private def r1 : BagValDict Nat Nat := [(1, [2, 1, 2]), (2, []), (3, [7])]
private def r2 : BagValDict Nat Nat := [(3, [7]), (1, [2, 2, 1])]
private def r3 : BagValDict Nat Nat := [(3, [7]), (1, [2, 1, 1])]

-- order of keys, order of entries and empty units are irrelevant; multiplicities are not
example : Bag.beq leN r1 r2 = true := by decide +kernel
example : Bag.beq leN r2 r1 = true := by decide +kernel
example : sameBagsB r1 r2 = true := by decide +kernel
example : Bag.beq leN r1 r3 = false := by decide +kernel
example : sameBagsB r1 r3 = false := by decide +kernel
example : Bag.len r1 = 2 ∧ nonEmptyKeys r1 = 2 := by decide +kernel
example : (AMap.keys r1).Nodup ∧ (AMap.keys r2).Nodup := by decide +kernel
-- the comparison inserts an empty list for a missing key (`defaultdict`) …
example : (Bag.beqM leN r2 [(5, [9]), (1, [1])]).2 = [(3, [7]), (1, [2, 2, 1]), (5, [])] := by decide +kernel
-- … which no observation sees
example : Bag.len (Bag.beqM leN r2 [(5, [9]), (1, [1])]).2 = 2 := by decide +kernel
example : Bag.canonEntries leN leN r1 = [(1, [1, 2, 2]), (3, [7])] := by decide +kernel
example : Bag.canonEntries leN leN r1 = Bag.canonEntries leN leN r2 := by decide +kernel
example : Bag.repr leN leN kpN kpN r1 = "BagValDict({1: [1, 2, 2], 3: [7]})" := by decide +kernel
example : Bag.repr leN leN kpN kpN r2 = "BagValDict({1: [1, 2, 2], 3: [7]})" := by decide +kernel
-- the checker accepts the model's observation and rejects a wrong one
example : (modelBagObs leN leN kpN kpN r1 r2).eqAB = true ∧ (modelBagObs leN leN kpN kpN r1 r2).eqAB2 = true ∧
    (modelBagObs leN leN kpN kpN r1 r2).lenA = 2 ∧ (modelBagObs leN leN kpN kpN r1 r2).lenA2 = 2 := by decide +kernel
example : checkC17 r1 r3 ⟨true, false, false, 2, 2, 2, "", "", ""⟩ = some "eq-iff-same-multisets" := by decide +kernel
example : checkC17 r1 r2 ⟨true, true, true, 3, 2, 3, "", "", ""⟩ = some "len-counts-nonempty-units" := by decide +kernel
example : checkC17 r1 r2 ⟨true, true, true, 2, 2, 2, "x", "x", "x"⟩ = none := by decide +kernel
example : checkC17 r1 r2 ⟨true, true, true, 2, 2, 2, "x", "y", "x"⟩ = some "equal-records-print-identically" := by
  decide +kernel

-- duplicate keys (impossible for a `dict`) break the equivalence: the hypothesis of `C17_eq_iff_multiset` and
-- `C17_len` is needed
example : sameBagsB ([(1, [5]), (1, [6])] : BagValDict Nat Nat) [(1, [5])] = true ∧
    Bag.beq leN ([(1, [5]), (1, [6])] : BagValDict Nat Nat) [(1, [5])] = false := by decide +kernel
example : Bag.len ([(1, [5]), (1, [6])] : BagValDict Nat Nat) = 2 ∧
    nonEmptyKeys ([(1, [5]), (1, [6])] : BagValDict Nat Nat) = 1 := by decide +kernel
-- a total preorder that is not antisymmetric (everything equivalent) does not give multiset equality
example : sameBagsB ([(1, [1, 2])] : BagValDict Nat Nat) [(1, [2, 1])] = true ∧
    Bag.beq (fun _ _ => true) ([(1, [1, 2])] : BagValDict Nat Nat) [(1, [2, 1])] = false := by decide +kernel

-- the simulator's instance
example : Util.beq ([(1, [⟨0, .U⟩, ⟨1, .S⟩]), (2, [])] : Util Nat) [(1, [⟨1, .S⟩, ⟨0, .U⟩])] = true := by decide +kernel
example : Util.beq ([(1, [⟨0, .U⟩, ⟨1, .S⟩])] : Util Nat) [(1, [⟨1, .D⟩, ⟨0, .U⟩])] = false := by decide +kernel

end examples

end ProcSim
