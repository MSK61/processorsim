import ProcSim.Lemmas.Checker
import ProcSim.Lemmas.ICase
/-!
# C18 — `ICaseString` obeys equality, hash, order, containment and printing laws

The five clauses of the property, for **all** strings (`List Char`, ASCII folding — the scope of
`Model/ICase.lean`) and every hash function of the folded text; on triples, transitivity of `==` and `<`, `<` and
`hash` respect `==`, trichotomy on each pair.

That the model's string order and substring test are core Lean's `<` on `List Char` and "occurs as a block" is
`Lemmas/ICase.lean`.
-/
namespace ProcSim

open Spec.Text

open ICase

/-- **C18 (equality)**: equal iff the lower-cased texts are equal; `==` is symmetric; `!=` is its negation. -/
theorem C18_eq (a b : List Char) :
    (ICase.eq ⟨a⟩ ⟨b⟩ = true ↔ lower a = lower b) ∧ ICase.eq ⟨a⟩ ⟨b⟩ = ICase.eq ⟨b⟩ ⟨a⟩ ∧
    ICase.ne ⟨a⟩ ⟨b⟩ = !ICase.eq ⟨a⟩ ⟨b⟩ := by
  refine ⟨by simp [ICase.eq, ICaseString.key], ?_, rfl⟩
  simp only [ICase.eq, ICaseString.key]
  exact Bool.beq_comm

/-- **C18 (hash)**: equal strings hash equally — for *every* hash function `h` of the folded text. -/
theorem C18_hash (h : List Char → Nat) (a b : List Char) (he : ICase.eq ⟨a⟩ ⟨b⟩ = true) :
    ICase.hash h ⟨a⟩ = ICase.hash h ⟨b⟩ := by
  simp only [ICase.eq, ICaseString.key, beq_iff_eq] at he
  simp only [ICase.hash, ICaseString.key, he]

/-- **C18 (order)**: `<`, `<=`, `>`, `>=` are those of the lower-cased texts (code-point lexicographic), and they
are mutually consistent: `<=` is `<` or `==`, `>` / `>=` are the swapped `<` / `<=`, `<=` is the negation of `>`. -/
theorem C18_order (a b : List Char) :
    (ICase.lt ⟨a⟩ ⟨b⟩ = true ↔ lower a < lower b) ∧ (ICase.le ⟨a⟩ ⟨b⟩ = true ↔ lower a ≤ lower b) ∧
    (ICase.gt ⟨a⟩ ⟨b⟩ = true ↔ lower b < lower a) ∧ (ICase.ge ⟨a⟩ ⟨b⟩ = true ↔ lower b ≤ lower a) ∧
    ICase.le ⟨a⟩ ⟨b⟩ = (ICase.lt ⟨a⟩ ⟨b⟩ || ICase.eq ⟨a⟩ ⟨b⟩) ∧
    ICase.gt ⟨a⟩ ⟨b⟩ = ICase.lt ⟨b⟩ ⟨a⟩ ∧ ICase.ge ⟨a⟩ ⟨b⟩ = ICase.le ⟨b⟩ ⟨a⟩ ∧
    ICase.le ⟨a⟩ ⟨b⟩ = !ICase.gt ⟨a⟩ ⟨b⟩ :=
  ⟨strLt_iff _ _, strLe_iff _ _, strLt_iff _ _, strLe_iff _ _, strLe_eq_lt_or_eq _ _, rfl, rfl, rfl⟩

/-- **C18 (containment)**: `item in A` iff the folded `item` occurs as a block in the folded text. -/
theorem C18_contains (a item : List Char) :
    ICase.contains ⟨a⟩ item = true ↔ Occurs (lower item) (lower a) := isInfix_iff _ _

/-- **C18 (printing)**: `str` is the original spelling. -/
theorem C18_str (a : List Char) : ICase.str ⟨a⟩ = a := rfl

/-- **C18**: the model's observation on any pair of strings, for any hash function, satisfies the property. -/
theorem C18_model (h : List Char → Nat) (a b : List Char) : C18_Holds a b (modelPairObs h a b) := by
  refine ⟨(C18_eq a b).1, (C18_eq b a).1, (C18_eq a b).2.2, ?_, (C18_order a b).1, (C18_order b a).1,
    (C18_order a b).2.1, (C18_order b a).2.1, (C18_order a b).2.2.1, (C18_order a b).2.2.2.1,
    C18_contains a b, C18_contains b a, rfl, rfl⟩
  intro he
  simp only [modelPairObs, beq_iff_eq]
  exact C18_hash h a b he

/-- the checker for supplied folded texts decides the literal reading of C18 for those texts -/
theorem checkC18Folded_iff (la lb a b : List Char) (o : PairObs) :
    checkC18Folded la lb a b o = none ↔ C18_HoldsFolded la lb a b o := by
  -- The 14 tests of the cascade are, in order, the 14 clauses of `C18_HoldsFolded`. A test `x != t` against
  -- `t = (u == v)`, `decide p` or `occursB p s` reads as the `↔` of its clause; these three kinds are rewritten
  -- first, since `bne_eq_false_iff_eq` (for `neAB`, `strA`, `strB`) would turn every test into an equation.
  simp only [checkC18Folded, ite_some_eq_none, C18_HoldsFolded, bne_beq_false, bne_decide_false, and_true]
  rw [bne_bool_false (y := occursB _ _), bne_bool_false (y := occursB _ _), occursB_iff, occursB_iff]
  simp only [bne_eq_false_iff_eq, Bool.and_eq_false_imp, Bool.not_eq_eq_eq_not, Bool.not_false]

theorem checkC18_iff (a b : List Char) (o : PairObs) : checkC18 a b o = none ↔ C18_Holds a b o :=
  checkC18Folded_iff (lower a) (lower b) a b o

theorem checkC18Folded_lower (a b : List Char) (o : PairObs) :
    checkC18Folded (ICase.lower a) (ICase.lower b) a b o = checkC18 a b o := rfl

theorem C18_HoldsFolded_lower (a b : List Char) (o : PairObs) :
    C18_HoldsFolded (ICase.lower a) (ICase.lower b) a b o ↔ C18_Holds a b o := Iff.rfl

/-- the readable form of the triple laws, for all strings -/
theorem C18_tripleLaws (h : List Char → Nat) (a b c : List Char) :
    C18_TripleLaws (modelPairObs h a b) (modelPairObs h b c) (modelPairObs h a c) := by
  simp only [C18_TripleLaws, modelPairObs, ICase.eq, ICase.lt, ICase.hash, ICaseString.key, beq_iff_eq]
  generalize lower a = x
  generalize lower b = y
  generalize lower c = z
  refine ⟨fun h1 h2 => h1.trans h2, fun h1 h2 => strLt_trans h1 h2, ?_, ?_, ?_⟩
  · rintro rfl; rfl
  · rintro rfl; rfl
  · rintro rfl _; rfl

theorem checkC18Triple_iff (ab bc ac : PairObs) :
    checkC18Triple ab bc ac = none ↔
      (trichotomyB ab = true ∧ trichotomyB bc = true ∧ trichotomyB ac = true) ∧ C18_TripleLaws ab bc ac := by
  simp only [checkC18Triple, C18_TripleLaws, ite_some_eq_none, Bool.not_eq_false']
  simp only [Bool.and_eq_true, Bool.and_eq_false_imp, Bool.not_eq_false', bne_eq_false_iff_eq, and_true, and_assoc,
    and_imp]

/-- **C18 (triples)**: for all strings and every hash function the observations on `(a,b)`, `(b,c)`, `(a,c)`
pass the triple checker: trichotomy on each pair, `==` and `<` transitive, `<` and `hash` respect `==`. -/
theorem C18_triple (h : List Char → Nat) (a b c : List Char) :
    checkC18Triple (modelPairObs h a b) (modelPairObs h b c) (modelPairObs h a c) = none :=
  (checkC18Triple_iff _ _ _).2 ⟨⟨strLt_trichotomy (lower a) (lower b), strLt_trichotomy (lower b) (lower c),
    strLt_trichotomy (lower a) (lower c)⟩, C18_tripleLaws h a b c⟩

/-- trichotomy in `Prop` form: exactly one of `A < B`, `A == B`, `B < A` -/
theorem C18_trichotomy (a b : List Char) :
    (lower a < lower b ∧ lower a ≠ lower b ∧ ¬ lower b < lower a) ∨
    (¬ lower a < lower b ∧ lower a = lower b ∧ ¬ lower b < lower a) ∨
    (¬ lower a < lower b ∧ lower a ≠ lower b ∧ lower b < lower a) :=
  exactly_one_lt_eq_gt (lower a) (lower b)

section examples
private def hsum (s : List Char) : Nat := s.foldl (fun n c => 31 * n + c.toNat) 7

example : (modelPairObs hsum "Add".toList "aDD".toList).eqAB = true := by decide +kernel
example : (modelPairObs hsum "Add".toList "aDD".toList).hashEq = true := by decide +kernel
example : (modelPairObs hsum "Add".toList "sub".toList).eqAB = false := by decide +kernel
example : (modelPairObs hsum "Add".toList "sub".toList).ltAB = true := by decide +kernel
example : (modelPairObs hsum "B".toList "a".toList).ltAB = false := by decide +kernel   -- 'B' < 'a' as code points, but b > a
example : (modelPairObs hsum "B".toList "a".toList).gtAB = true := by decide +kernel
example : (modelPairObs hsum "ab".toList "AB1".toList).ltAB = true := by decide +kernel  -- proper prefix
example : (modelPairObs hsum "xADDy".toList "add".toList).bInA = true := by decide +kernel
example : (modelPairObs hsum "xADDy".toList "add".toList).aInB = false := by decide +kernel
example : (modelPairObs hsum "xADDy".toList "".toList).bInA = true := by decide +kernel
example : (modelPairObs hsum "Add".toList "aDD".toList).strA = "Add".toList := by decide +kernel
example : checkC18 "Add".toList "aDD".toList (modelPairObs hsum "Add".toList "aDD".toList) = none := by decide +kernel
-- a wrong observation is rejected by the checker (so `checkC18 … = none` is not vacuous)
example : checkC18 "Add".toList "aDD".toList { modelPairObs hsum "Add".toList "aDD".toList with eqAB := false }
    = some "eq-iff-lower-equal" := by decide +kernel
example : checkC18 "B".toList "a".toList { modelPairObs hsum "B".toList "a".toList with ltAB := true }
    = some "lt-as-lower-texts" := by decide +kernel
example : checkC18Triple (modelPairObs hsum "a".toList "A".toList) (modelPairObs hsum "A".toList "b".toList)
    (modelPairObs hsum "a".toList "b".toList) = none := by decide +kernel
example : Occurs "dd".toList "add".toList := ⟨"a".toList, [], by decide +kernel⟩
end examples

end ProcSim
