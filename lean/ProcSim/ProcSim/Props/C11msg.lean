import ProcSim.Lemmas.LoaderMsg
import ProcSim.Lemmas.ICase
/-!
# C11, last clause: "… and its message contains them"

`Model/LoaderMsg.lean` models `str(exc)` of every loader exception (`LoadError.messages`: one text per class, three
candidate texts for `PathLockError`, whose raising site `LoadError` does not record).  The driver compares the
implementation's text with these candidates on the implementation's own fields (`msgEq`), so the texts below are the
real ones.  Here: every field, *as `str()` displays it*, occurs in the text as a contiguous block.

**Restriction forced by the code (finding).**  `BadEdgeError.edge` is a list and `str(list)` shows the `repr` of its
elements.  An element occurs verbatim iff its `repr` has no escape (`ReprVerbatim`): it fails for an element with a
backslash, a control character, or both kinds of quotes (and, outside the model, a non-printable non-ASCII
character) — e.g. `dataPath: [["a\\b"]]` gives `Edge ['a\\\\b'] doesn't connect …`, which does not contain `a\b`
(examples at the end; observed on the real code).  All other classes need no hypothesis.
-/
namespace ProcSim
namespace Loader
open Spec.Text LoaderMsg

variable {N : Type}

theorem messages_length (sh : N → String) (e : LoadError N) :
    (e.messages sh).length = if e.cls = .pathLock then 3 else 1 := by
  cases e <;> rfl

theorem messages_eq_messageAt (sh : N → String) (e : LoadError N) :
    ∀ m, m ∈ e.messages sh ↔ ∃ site, m = e.messageAt sh site := by
  intro m
  cases e <;>
    simp only [LoadError.messages, LoadError.message, messageAt_dupElem, messageAt_badWidth, messageAt_badEdge,
      messageAt_undefElem, messageAt_cyclic, messageAt_deadInput, messageAt_emptyProc, messageAt_pathLock,
      messageAt_blockedCap, pathLockMessages, LockSite.all,
      List.map_cons, List.map_nil, List.mem_cons, List.not_mem_nil, or_false]
  case pathLock s t c =>
    constructor
    · rintro (h | h | h)
      · exact ⟨.noLock, h⟩
      · exact ⟨.multiple, h⟩
      · exact ⟨.different, h⟩
    · rintro ⟨site, h⟩
      cases site
      · exact .inl h
      · exact .inr (.inl h)
      · exact .inr (.inr h)
  all_goals exact ⟨fun h => ⟨.noLock, h⟩, fun ⟨_, h⟩ => h⟩

/-- the shape of the three path-lock texts: the fields in the same order between fixed words -/
private theorem occurs_of_three_fields (a x b y c z d : String) {f : String} (hf : f = x ∨ f = y ∨ f = z) :
    Occurs f.toList (a ++ x ++ b ++ y ++ c ++ z ++ d).toList := by
  simp only [String.toList_append]
  rcases hf with rfl | rfl | rfl
  · occ
  · occ
  · occ

theorem messageAt_contains_fields (sh : N → String) (e : LoadError N)
    (hv : ∀ ed, e = .badEdge ed → ∀ x ∈ ed, ReprVerbatim (sh x)) (site : LockSite) :
    ∀ f ∈ e.fieldStrs sh, Occurs f.toList (e.messageAt sh site).toList := by
  intro f hf
  cases e with
  | dupElem o n =>
    simp only [LoadError.fieldStrs, List.mem_cons, List.not_mem_nil, or_false] at hf
    simp only [messageAt_dupElem, String.toList_append]
    rcases hf with rfl | rfl <;> occ
  | badWidth u w =>
    simp only [LoadError.fieldStrs, List.mem_cons, List.not_mem_nil, or_false] at hf
    simp only [messageAt_badWidth, String.toList_append]
    rcases hf with rfl | rfl <;> occ
  | badEdge ed =>
    simp only [LoadError.fieldStrs, List.mem_map] at hf
    obtain ⟨x, hx, rfl⟩ := hf
    simp only [messageAt_badEdge, String.toList_append]
    apply occurs_append_right
    apply occurs_append_left
    exact occurs_pyStrList (List.mem_map.2 ⟨x, hx, rfl⟩) (hv ed rfl x hx)
  | undefElem x =>
    simp only [LoadError.fieldStrs, List.mem_cons, List.not_mem_nil, or_false] at hf
    subst hf
    simp only [messageAt_undefElem, String.toList_append]
    occ
  | cyclic => simp [LoadError.fieldStrs] at hf
  | deadInput p =>
    simp only [LoadError.fieldStrs, List.mem_cons, List.not_mem_nil, or_false] at hf
    subst hf
    simp only [messageAt_deadInput, String.toList_append]
    occ
  | emptyProc => simp [LoadError.fieldStrs] at hf
  | pathLock s t c =>
    simp only [LoadError.fieldStrs, List.mem_cons, List.not_mem_nil, or_false] at hf
    rw [messageAt_pathLock]
    cases site
    · exact occurs_of_three_fields _ (sh s) _ t.code _ (sh c) _ hf
    · exact occurs_of_three_fields _ (sh s) _ t.code _ (sh c) _ hf
    · exact occurs_of_three_fields _ (sh s) _ t.code _ (sh c) _ hf
  | blockedCap c p =>
    simp only [LoadError.fieldStrs, List.mem_cons, List.not_mem_nil, or_false] at hf
    simp only [messageAt_blockedCap, String.toList_append]
    rcases hf with rfl | rfl <;> occ

/-- **C11 (message).**  For every loader error `e`, every text `m` it can carry (the three path-lock texts included)
and every field string `f` of `e` (unit names, capability, the word `read`/`write`, the width in decimal, each
element of a bad edge): `f` is a substring of `m` — provided the elements of a bad edge have an escape-free `repr`. -/
theorem C11_message_contains_fields (sh : N → String) (e : LoadError N)
    (hv : ∀ ed, e = .badEdge ed → ∀ x ∈ ed, ReprVerbatim (sh x)) :
    ∀ m ∈ e.messages sh, ∀ f ∈ e.fieldStrs sh, Occurs f.toList m.toList := by
  intro m hm f hf
  obtain ⟨site, rfl⟩ := (messages_eq_messageAt sh e m).1 hm
  exact messageAt_contains_fields sh e hv site f hf

/-- the same with the syntactic condition "no `'`, no `\`, no control character" on bad-edge elements -/
theorem C11_message_contains_fields_plain (sh : N → String) (e : LoadError N)
    (hv : ∀ ed, e = .badEdge ed → ∀ x ∈ ed, PlainName (sh x)) :
    ∀ m ∈ e.messages sh, ∀ f ∈ e.fieldStrs sh, Occurs f.toList m.toList :=
  C11_message_contains_fields sh e (fun ed h x hx => plain_verbatim (hv ed h x hx))

/-- no hypothesis at all for the classes other than `BadEdgeError` -/
theorem C11_message_contains_fields_nonEdge (sh : N → String) (e : LoadError N) (he : e.cls ≠ .badEdge) :
    ∀ m ∈ e.messages sh, ∀ f ∈ e.fieldStrs sh, Occurs f.toList m.toList :=
  C11_message_contains_fields sh e (fun ed h => by subst h; exact absurd rfl he)

/-- in the form of the driver's check on the implementation's text (Python `f in m`) -/
theorem C11_message_contains_fields_bool (sh : N → String) (e : LoadError N)
    (hv : ∀ ed, e = .badEdge ed → ∀ x ∈ ed, ReprVerbatim (sh x)) :
    (e.messages sh).all (fun m => (e.fieldStrs sh).all (fun f => ICase.isInfix f.toList m.toList)) = true := by
  simp only [List.all_eq_true, ICase.isInfix_iff]
  exact C11_message_contains_fields sh e hv

/-- characters 0 and 13 of `l ++ r` are those of `l`, if `l` is that long -/
private theorem marks_append (l r : String) (a b : Char) (h : (l.toList[0]?, l.toList[13]?) = (some a, some b)) :
    ((l ++ r).toList[0]?, (l ++ r).toList[13]?) = (some a, some b) := by
  have h0 := (Prod.mk.inj h).1
  have h13 := (Prod.mk.inj h).2
  rw [String.toList_append, List.getElem?_append_left (List.getElem?_eq_some_iff.1 h0).1,
    List.getElem?_append_left (List.getElem?_eq_some_iff.1 h13).1, h0, h13]

/-- the characters at positions 0 and 13, both inside the fixed opening words, tell the raising site -/
theorem pathLockMessage_marks (sh : N → String) (s : N) (t : LockType) (c : N) (site : LockSite) :
    ((pathLockMessage sh site s t c).toList[0]?, (pathLockMessage sh site s t c).toList[13]?) =
      match site with
      | .noLock => (some 'F', some 's')
      | .multiple => (some 'F', some 'p')
      | .different => (some 'P', some ' ') := by
  cases site
  · simp only [pathLockMessage_noLock, String.append_assoc]
    exact marks_append _ _ _ _ (by decide +kernel)
  · simp only [pathLockMessage_multiple, String.append_assoc]
    exact marks_append _ _ _ _ (by decide +kernel)
  · simp only [pathLockMessage_different, String.append_assoc]
    exact marks_append _ _ _ _ (by decide +kernel)

theorem pathLockMessage_injective_site (sh : N → String) (s : N) (t : LockType) (c : N) (a b : LockSite)
    (h : pathLockMessage sh a s t c = pathLockMessage sh b s t c) : a = b := by
  have ha := pathLockMessage_marks sh s t c a
  rw [h, pathLockMessage_marks sh s t c b] at ha
  cases a <;> cases b <;> first | rfl | exact absurd ha (by decide)

theorem pathLockMessages_nodup (sh : N → String) (s : N) (t : LockType) (c : N) :
    (pathLockMessages sh s t c).Nodup := by
  have inj := pathLockMessage_injective_site sh s t c
  simp only [pathLockMessages, LockSite.all, List.map_cons, List.map_nil, List.nodup_cons, List.mem_cons,
    List.not_mem_nil, or_false, not_or, not_false_eq_true, List.nodup_nil, and_true]
  refine ⟨⟨fun h => ?_, fun h => ?_⟩, fun h => ?_⟩
  · exact absurd (inj _ _ h) (by decide)
  · exact absurd (inj _ _ h) (by decide)
  · exact absurd (inj _ _ h) (by decide)

/-! ### the exact texts observed on the real code (`str(exc)` of `processor_utils.load_proc_desc`) -/

example : (LoadError.dupElem "fullSys" "FULLsys").messages id =
    ["Functional unit FULLsys previously added as fullSys"] := by decide +kernel
example : (LoadError.badWidth "core" 0).messages id = ["Functional unit core has a bad width 0."] := by decide +kernel
example : (LoadError.badWidth "core" (-12)).messages id = ["Functional unit core has a bad width -12."] := by decide +kernel
example : (LoadError.badEdge ["a", "b", "c"]).messages id =
    ["Edge ['a', 'b', 'c'] doesn't connect exactly 2 functional units."] := by decide +kernel
example : (LoadError.badEdge ["a"]).messages id = ["Edge ['a'] doesn't connect exactly 2 functional units."] := by decide +kernel
example : (LoadError.badEdge ([] : List String)).messages id =
    ["Edge [] doesn't connect exactly 2 functional units."] := by decide +kernel
example : (LoadError.undefElem "Ghost").messages id = ["Undefined functional unit Ghost"] := by decide +kernel
example : (LoadError.cyclic : LoadError String).messages id = [""] := by decide +kernel
example : (LoadError.deadInput "in").messages id =
    ["No feasible path found from input port in to any output ports"] := by decide +kernel
example : (LoadError.emptyProc : LoadError String).messages id = ["No input ports found"] := by decide +kernel
example : (LoadError.pathLock "in" .read "ALU").messages id =
    ["Found a path starting at input port in with no read locks for capability ALU.",
     "Found a path passing through in with multiple read locks for capability ALU.",
     "Paths passing through in have different read locks for capability ALU."] := by decide +kernel
example : pathLockMessage id .noLock "in" .write "ALU" =
    "Found a path starting at input port in with no write locks for capability ALU." := by decide +kernel
example : pathLockMessage id .multiple "in" .write "ALU" =
    "Found a path passing through in with multiple write locks for capability ALU." := by decide +kernel
example : (LoadError.blockedCap "MEM" "in2").messages id = ["Capability MEM blocked from port in2"] := by decide +kernel

/-- `repr` with quotes, backslash and control characters, as observed:
`Edge ["it's", 'say "x"', 'both\'"', 'back\\slash', 'new\nline', 'tab\t', '\x7f\x1f\x00'] doesn't …` -/
example : (LoadError.badEdge ["it's", "say \"x\"", "both'\"", "back\\slash", "new\nline", "tab\t", "\x7f\x1f\x00"]).messages id =
    ["Edge [\"it's\", 'say \"x\"', 'both\\'\"', 'back\\\\slash', 'new\\nline', 'tab\\t', '\\x7f\\x1f\\x00'] doesn't connect exactly 2 functional units."] := by
  decide +kernel

example : ReprVerbatim "core 0" ∧ ReprVerbatim "it's" ∧ ReprVerbatim "say \"x\"" ∧ PlainName "A b" := by decide +kernel

example : ∀ f ∈ (LoadError.badEdge ["it's", "B 1", ""]).fieldStrs id,
    Occurs f.toList ((LoadError.badEdge ["it's", "B 1", ""]).message id).toList :=
  C11_message_contains_fields id _ (fun ed h => by cases h; decide +kernel) _ (by simp [LoadError.messages])

/-- a backslash: `repr` doubles it, the element is not in the text -/
example : ¬ ReprVerbatim "a\\b" ∧
    ¬ Occurs "a\\b".toList ((LoadError.badEdge ["a\\b"]).message id).toList := by
  rw [← ICase.isInfix_iff]; decide +kernel

/-- both kinds of quotes: `'` is escaped -/
example : ¬ ReprVerbatim "q'\"r" ∧
    ¬ Occurs "q'\"r".toList ((LoadError.badEdge ["q'\"r"]).message id).toList := by
  rw [← ICase.isInfix_iff]; decide +kernel

/-- a line break -/
example : ¬ ReprVerbatim "x\ny" ∧
    ¬ Occurs "x\ny".toList ((LoadError.badEdge ["x\ny"]).message id).toList := by
  rw [← ICase.isInfix_iff]; decide +kernel

end Loader
end ProcSim
