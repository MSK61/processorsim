import ProcSim.Lemmas.LoaderGraph
/-!
# C12 — processor objects list units sink-first and classify ports by connectivity

Any processor object built by the constructor model `mkProc`, from parts supplied in any order, lists its internal
units sink-first (each unit before all of its predecessors) and its output ports in name order; the parts are only
re-ordered, and the constructor succeeds iff a sink-first order exists at all. For a loaded processor additionally:
input port ⇔ no predecessor (and a successor), output port ⇔ no successor (and a predecessor), in-out port ⇔ isolated,
internal ⇔ both. The Boolean checkers the driver evaluates on the implementation's objects decide these statements.

The order hypothesis `StrictTotal N` (`<` on names is a strict total order) holds for `String` and `Nat`
(`StrictTotal.string`, `StrictTotal.nat`); it is needed for "output ports in name order" only.
-/
namespace ProcSim
namespace Loader
open Spec

variable {N : Type} [DecidableEq N]

theorem sinkFirstB_iff (l : List (FuncU N)) : sinkFirstB l = true ↔ SinkFirst l := by
  induction l with
  | nil => simp [sinkFirstB, SinkFirst]
  | cons a t ih =>
    simp only [sinkFirstB, Bool.and_eq_true, Bool.not_eq_true', decide_eq_false_iff_not, List.all_eq_true, ih,
      SinkFirst, List.pairwise_cons, List.mem_cons, forall_eq_or_imp]
    constructor
    · rintro ⟨⟨h1, h2⟩, h3, h4⟩; exact ⟨⟨h2, h3⟩, h1, h4⟩
    · rintro ⟨⟨h2, h3⟩, h1, h4⟩; exact ⟨⟨h1, h2⟩, h3, h4⟩

theorem hasPredB_iff (p : Proc N) (u : N) : hasPredB p u = true ↔ ∃ a, edgeB p a u = true := by
  simp only [hasPredB, edgeB, List.any_eq_true, Bool.and_eq_true, decide_eq_true_eq, Bool.not_eq_true']
  constructor
  · rintro ⟨f, hf, hu, hne⟩
    cases hp : f.preds with
    | nil => simp [hp] at hne
    | cons a _ => exact ⟨a, f, hf, hu, by simp [hp]⟩
  · rintro ⟨a, f, hf, hu, ha⟩
    refine ⟨f, hf, hu, ?_⟩
    cases hp : f.preds with
    | nil => simp [hp] at ha
    | cons _ _ => rfl

theorem hasSuccB_iff (p : Proc N) (u : N) : hasSuccB p u = true ↔ ∃ b ∈ procNames p, edgeB p u b = true := by
  simp [hasSuccB]

theorem mem_procNames (p : Proc N) (u : N) : u ∈ procNames p ↔
    u ∈ p.inPorts.map (·.name) ∨ u ∈ p.inOut.map (·.name) ∨ u ∈ p.outPorts.map (·.model.name) ∨
      u ∈ p.internal.map (·.model.name) := by
  simp only [procNames_eq, List.map_append, List.mem_append, or_assoc]

section Order
variable [LT N] [DecidableRel (α := N) (· < ·)]

omit [DecidableEq N] in
theorem outSortedB_iff (l : List (FuncU N)) : outSortedB l = true ↔ OutSorted l := by
  induction l with
  | nil => simp [outSortedB, OutSorted]
  | cons a t ih =>
    unfold OutSorted at ih ⊢
    simp only [outSortedB, Bool.and_eq_true, Bool.not_eq_true', decide_eq_false_iff_not, List.all_eq_true, ih,
      List.pairwise_cons]

theorem checkC12Order_iff (p : Proc N) : checkC12Order p = true ↔ C12_Order p := by
  simp only [checkC12Order, allPass, clausesC12Order, List.all_cons, List.all_nil, Bool.and_true, Bool.and_eq_true,
    sinkFirstB_iff, outSortedB_iff]
  exact ⟨fun ⟨h1, h2⟩ => ⟨h1, h2⟩, fun h => ⟨h.sinkFirst, h.outSorted⟩⟩

theorem four_class_iff {I O IO INT A B : Prop} (hI : I → ¬A ∧ B) (hO : O → A ∧ ¬B) (hIO : IO → ¬A ∧ ¬B)
    (hINT : INT → A ∧ B) (hall : I ∨ IO ∨ O ∨ INT) :
    (I ↔ ¬A ∧ B) ∧ (O ↔ A ∧ ¬B) ∧ (IO ↔ ¬A ∧ ¬B) ∧ (INT ↔ A ∧ B) := by
  -- a unit with the marks of one class is in that class: each other class is excluded by one of its two marks
  refine ⟨⟨hI, fun h => ?_⟩, ⟨hO, fun h => ?_⟩, ⟨hIO, fun h => ?_⟩, ⟨hINT, fun h => ?_⟩⟩
  · rcases hall with h' | h' | h' | h'
    · exact h'
    · exact absurd h.2 (hIO h').2
    · exact absurd (hO h').1 h.1
    · exact absurd (hINT h').1 h.1
  · rcases hall with h' | h' | h' | h'
    · exact absurd h.1 (hI h').1
    · exact absurd h.1 (hIO h').1
    · exact h'
    · exact absurd (hINT h').2 h.2
  · rcases hall with h' | h' | h' | h'
    · exact absurd (hI h').2 h.2
    · exact h'
    · exact absurd (hO h').1 h.1
    · exact absurd (hINT h').1 h.1
  · rcases hall with h' | h' | h' | h'
    · exact absurd h.1 (hI h').1
    · exact absurd h.1 (hIO h').1
    · exact absurd h.2 (hO h').2
    · exact h'

/-- `checkC12` decides `C12_Holds` (no side condition is needed) -/
theorem checkC12_iff (p : Proc N) : checkC12 p = true ↔ C12_Holds p := by
  have hF : ∀ u, (∀ a, edgeB p a u = false) ↔ ¬ ∃ a, edgeB p a u = true := fun u => by simp
  have hG : ∀ u, (∀ b ∈ procNames p, edgeB p u b = false) ↔ ¬ ∃ b ∈ procNames p, edgeB p u b = true := fun u => by simp
  simp only [checkC12, allPass, clausesC12, List.all_append, List.all_cons, List.all_nil, Bool.and_true, Bool.and_eq_true]
  have hord : (clausesC12Order p).all (·.2) = true ↔ C12_Order p := checkC12Order_iff p
  rw [hord]
  simp only [List.all_eq_true, Bool.and_eq_true, Bool.not_eq_true', ← Bool.not_eq_true, hasPredB_iff, hasSuccB_iff]
  constructor
  · rintro ⟨ho, hI, hO, hIO, hINT⟩
    have key : ∀ u ∈ procNames p, _ := fun u hu =>
      four_class_iff (I := u ∈ p.inPorts.map (·.name)) (O := u ∈ p.outPorts.map (·.model.name))
        (IO := u ∈ p.inOut.map (·.name)) (INT := u ∈ p.internal.map (·.model.name))
        (A := ∃ a, edgeB p a u = true) (B := ∃ b ∈ procNames p, edgeB p u b = true)
        (fun h => by obtain ⟨m, hm, rfl⟩ := List.mem_map.1 h; exact hI m hm)
        (fun h => by obtain ⟨m, hm, rfl⟩ := List.mem_map.1 h; exact hO m hm)
        (fun h => by obtain ⟨m, hm, rfl⟩ := List.mem_map.1 h; exact hIO m hm)
        (fun h => by obtain ⟨m, hm, rfl⟩ := List.mem_map.1 h; exact hINT m hm)
        ((mem_procNames p u).1 hu)
    exact { toC12_Order := ho
            inputIff := fun u hu => by rw [hF]; exact (key u hu).1
            outputIff := fun u hu => by rw [hG]; exact (key u hu).2.1
            inOutIff := fun u hu => by rw [hF, hG]; exact (key u hu).2.2.1
            internalIff := fun u hu => (key u hu).2.2.2 }
  · intro h
    refine ⟨h.toC12_Order, ?_, ?_, ?_, ?_⟩
    · intro m hm
      have hn : m.name ∈ p.inPorts.map (·.name) := List.mem_map_of_mem hm
      have := (h.inputIff m.name ((mem_procNames p _).2 (.inl hn))).1 hn
      rwa [hF] at this
    · intro m hm
      have hn : m.model.name ∈ p.outPorts.map (·.model.name) := List.mem_map_of_mem hm
      have := (h.outputIff m.model.name ((mem_procNames p _).2 (.inr (.inr (.inl hn))))).1 hn
      rwa [hG] at this
    · intro m hm
      have hn : m.name ∈ p.inOut.map (·.name) := List.mem_map_of_mem hm
      have := (h.inOutIff m.name ((mem_procNames p _).2 (.inr (.inl hn)))).1 hn
      rwa [hF, hG] at this
    · intro m hm
      have hn : m.model.name ∈ p.internal.map (·.model.name) := List.mem_map_of_mem hm
      exact (h.internalIff m.model.name ((mem_procNames p _).2 (.inr (.inr (.inr hn))))).1 hn

/-- **C12, first half.** Whatever the order in which the parts are supplied, a processor object lists its internal
units sink-first (every unit before all of its predecessors, and no unit is its own predecessor) and its output
ports in name order. -/
theorem C12_mkProc_order (ho : StrictTotal N) {ins inouts : List (UnitM N)} {outs internal : List (FuncU N)}
    {p : Proc N} (h : mkProc ins outs inouts internal = some p) : C12_Order p := by
  unfold mkProc at h
  obtain ⟨io, hio, rfl⟩ := Option.map_eq_some_iff.1 h
  exact ⟨postOrder_sinkFirst hio, sortFU_sorted ho outs⟩

/-- The constructor only re-orders the parts: input and in-out ports are unchanged, the output ports are a
permutation of the supplied ones, every listed internal unit was supplied, every supplied *name* is listed exactly
once, and when the supplied internal units have pairwise different names the listed ones are a permutation of them.
(If two internal units of the same name are supplied, one of them is dropped — like the `networkx` node dictionary
of `_get_unit_graph`.) -/
theorem C12_mkProc_perm {ins inouts : List (UnitM N)} {outs internal : List (FuncU N)} {p : Proc N}
    (h : mkProc ins outs inouts internal = some p) :
    p.inPorts = ins ∧ p.inOut = inouts ∧ p.outPorts.Perm outs ∧
    (∀ x ∈ p.internal, x ∈ internal) ∧ (p.internal.map (·.model.name)).Nodup ∧
    (∀ x ∈ internal, x.model.name ∈ p.internal.map (·.model.name)) ∧
    ((internal.map (·.model.name)).Nodup → p.internal.Perm internal) := by
  unfold mkProc at h
  obtain ⟨io, hio, rfl⟩ := Option.map_eq_some_iff.1 h
  exact ⟨rfl, rfl, sortFU_perm outs, postOrder_subset hio, postOrder_names_nodup hio, postOrder_names_cover hio,
    fun hn => postOrder_perm hn hio⟩

theorem C12_mkProc_some_of_sinkFirst {ins inouts : List (UnitM N)} {outs internal l : List (FuncU N)}
    (hl : SinkFirst l) (hsub : ∀ x ∈ internal, x ∈ l) : (mkProc ins outs inouts internal).isSome = true := by
  unfold mkProc
  rw [Option.isSome_map]
  exact postOrder_isSome_of_sinkFirst hl hsub

/-- The constructor succeeds iff the internal units (of pairwise different names) admit a sink-first order, i.e. iff
the predecessor relation restricted to the internal units has no cycle (`C12_mkProc_some_iff_acyclic` below for the
reading with closed walks). -/
theorem C12_mkProc_some_iff {ins inouts : List (UnitM N)} {outs internal : List (FuncU N)}
    (hn : (internal.map (·.model.name)).Nodup) :
    (mkProc ins outs inouts internal).isSome = true ↔ ∃ l, l.Perm internal ∧ SinkFirst l := by
  constructor
  · intro h
    obtain ⟨p, hp⟩ := Option.isSome_iff_exists.1 h
    have := C12_mkProc_perm hp
    unfold mkProc at hp
    obtain ⟨io, hio, rfl⟩ := Option.map_eq_some_iff.1 hp
    exact ⟨io, this.2.2.2.2.2.2 hn, postOrder_sinkFirst hio⟩
  · rintro ⟨l, hl, hs⟩
    exact C12_mkProc_some_of_sinkFirst hs (fun x hx => hl.mem_iff.2 hx)

/-- The constructor succeeds iff there is no closed walk of internal predecessors (`PredIn internal a b`: `a` names
an internal unit listed among the predecessors of the internal unit `b`); otherwise `NetworkXUnfeasible` escapes. -/
theorem C12_mkProc_some_iff_acyclic {ins inouts : List (UnitM N)} {outs internal : List (FuncU N)}
    (hn : (internal.map (·.model.name)).Nodup) :
    (mkProc ins outs inouts internal).isSome = true ↔ ¬ ∃ u l, WalkR (PredIn internal) (u :: l ++ [u]) := by
  unfold mkProc
  rw [Option.isSome_map]
  exact postOrder_isSome_iff_acyclic hn

theorem C12_of_makeProcessor (ho : StrictTotal N) (fold : N → N) {reg : List N} {g2 : Graph N} {p : Proc N}
    (hwf : g2.WF) (hm : makeProcessor fold reg g2 = some p) : C12_Holds p := by
  have hE : ∀ a b, edgeB p a b = true ↔ (a, b) ∈ g2.edges := fun a b => makeProcessor_edgeB fold hwf hm
  have hN : ∀ u, u ∈ procNames p ↔ u ∈ g2.names := fun u => (makeProcessor_procNames_perm fold hwf.namesNodup hm).mem_iff
  have hA : ∀ u, (∀ a, edgeB p a u = false) ↔ ¬ ∃ a, (a, u) ∈ g2.edges := fun u => by
    simp only [← hE, not_exists, Bool.not_eq_true]
  have hB : ∀ u, (∃ b ∈ procNames p, edgeB p u b = true) ↔ ∃ b, (u, b) ∈ g2.edges := fun u => by
    constructor
    · rintro ⟨b, -, hb⟩; exact ⟨b, (hE u b).1 hb⟩
    · rintro ⟨b, hb⟩; exact ⟨b, (hN b).2 (hwf.edgesIn _ hb).2, (hE u b).2 hb⟩
  have hB' : ∀ u, (∀ b ∈ procNames p, edgeB p u b = false) ↔ ¬ ∃ b, (u, b) ∈ g2.edges := fun u => by
    rw [← hB]; simp
  have hord : C12_Order p := C12_mkProc_order ho hm
  refine { toC12_Order := hord, inputIff := ?_, outputIff := ?_, inOutIff := ?_, internalIff := ?_ } <;>
    intro u hu <;> have hcl := makeProcessor_classes fold hwf.namesNodup hm u <;> have hu' := (hN u).1 hu
  · rw [hA, hB, hcl.1]; exact ⟨fun h => h.2, fun h => ⟨hu', h⟩⟩
  · rw [hB', hcl.2.1]
    constructor
    · rintro ⟨-, ⟨a, ha⟩, h2⟩; exact ⟨⟨a, (hE a u).2 ha⟩, h2⟩
    · rintro ⟨⟨a, ha⟩, h2⟩; exact ⟨hu', ⟨a, (hE a u).1 ha⟩, h2⟩
  · rw [hA, hB', hcl.2.2.1]; exact ⟨fun h => h.2, fun h => ⟨hu', h⟩⟩
  · rw [hB, hcl.2.2.2]
    constructor
    · rintro ⟨-, ⟨a, ha⟩, h2⟩; exact ⟨⟨a, (hE a u).2 ha⟩, h2⟩
    · rintro ⟨⟨a, ha⟩, h2⟩; exact ⟨hu', ⟨a, (hE a u).1 ha⟩, h2⟩

/-- **C12, second half.** A loaded processor satisfies the order statement, and a unit is an input port iff it has
no predecessor (and a successor), an output port iff it has no successor (and a predecessor), an in-out port iff
it is isolated, and an internal unit iff it has both. -/
theorem C12_loaded (ho : StrictTotal N) (fold : N → N) {d : Desc N} {p : Proc N} (h : load fold d = .ok p) :
    C12_Holds p := by
  obtain ⟨g0, reg, g2, hc, hp, hm⟩ := load_ok fold h
  exact C12_of_makeProcessor ho fold (prepare_induced (createGraph_WF fold hc) hp).2 hm

end Order

namespace C12Examples

def exM (n : Nat) : UnitM Nat := ⟨n, 1, [100], false, false, []⟩
/-- internal DAG 1→2, 1→3, 2→4, 3→4, 4→5 (+ in-port 0→1, out ports 5→6, 5→7), supplied scrambled -/
def exInternal : List (FuncU Nat) :=
  [⟨exM 3, [1]⟩, ⟨exM 5, [4]⟩, ⟨exM 1, [0]⟩, ⟨exM 4, [3, 2]⟩, ⟨exM 2, [1]⟩]
def exOuts : List (FuncU Nat) := [⟨exM 7, [5]⟩, ⟨exM 6, [5]⟩]

example : (mkProc [exM 0] exOuts [] exInternal).map checkC12Order = some true := by decide +kernel
example : ((mkProc [exM 0] exOuts [] exInternal).map (fun p => p.internal.map (·.model.name))) = some [5, 4, 3, 2, 1] := by decide +kernel
example : ((mkProc [exM 0] exOuts [] exInternal).map (fun p => p.outPorts.map (·.model.name))) = some [6, 7] := by decide +kernel
-- a cycle 1 → 2 → 1 among the internal units: no object
example : mkProc [exM 0] exOuts [] [⟨exM 1, [0, 2]⟩, ⟨exM 2, [1]⟩] = none := by decide +kernel
-- the checker rejects a predecessor listed first / unsorted output ports
example : checkC12Order (⟨[exM 0], exOuts, [], exInternal⟩ : Proc Nat) = false := by decide +kernel

def exDesc : Desc Nat :=
  ⟨[⟨4, 1, [100], false, false, []⟩, ⟨2, 1, [100], true, false, []⟩, ⟨5, 1, [100], false, true, []⟩,
    ⟨1, 1, [100], false, false, []⟩, ⟨3, 1, [100], true, false, []⟩, ⟨9, 1, [100], true, true, []⟩],
   [[4, 5], [1, 3], [2, 4], [1, 2], [3, 4]]⟩

example : (match load id exDesc with | .ok p => checkC12 p | .error _ => false) = true := by decide +kernel
example : (match load id exDesc with
    | .ok p => (p.inPorts.map (·.name), p.inOut.map (·.name), p.outPorts.map (·.model.name), p.internal.map (·.model.name))
    | .error _ => ([], [], [], [])) = ([1], [9], [5], [4, 2, 3]) := by decide +kernel

example : ∀ p, load id exDesc = .ok p → C12_Holds p := fun _ h => C12_loaded StrictTotal.nat id h
example : (load id exDesc).toOption.isSome = true := by decide +kernel

end C12Examples

end Loader
end ProcSim
