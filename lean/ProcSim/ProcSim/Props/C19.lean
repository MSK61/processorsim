import ProcSim.Lemmas.Queue
/-!
# C19 — register access queues serve requests in registration order

"For any sequence of read/write requests registered in program order, a request can be served exactly when every
request registered before it has been removed, except that reads in an unbroken run of reads are served together
and a write registered directly after its owner's own read can be served with that read once no other reader
remains.  Removing served requests in any permitted order never fails and ends with an empty queue."

The model of `reg_access.py` (`Queue.build`, `Queue.canAccess`, `Queue.dequeue`) is shown to refine the request-level
specification of `Spec/Queue.lean` on the pending list `abs q` (`canServe`, `removeSpec`), for well-formed queues
(`WFq`, kept by `build` and `dequeue`); the two sentences are then read off the specification.  Request sequences and
removal histories are of any length.
-/
namespace ProcSim
open Spec QueueLemmas

theorem C19_build_wf (reqs : List Req) : WFq (Queue.build reqs) :=
  foldl_push_wf reqs (q := []) trivial

theorem C19_dequeue_wf {q q' : Queue} {o : Nat} (h : WFq q) (hd : q.dequeue o = some q') : WFq q' := by
  cases q with
  | nil => simp [Queue.dequeue] at hd
  | cons g rest =>
    have h' := (WFq_cons g rest).1 h
    by_cases hm : o ∈ g.owners
    · simp only [Queue.dequeue, if_pos hm] at hd
      by_cases he : (g.owners.erase o).isEmpty = true
      · simp only [he, if_true, Option.some.injEq] at hd
        subst hd; exact h'.2.2
      · simp only [he, Bool.false_eq_true, if_false, Option.some.injEq] at hd
        subst hd
        rw [WFq_cons]
        refine ⟨⟨?_, h'.1.2.1.erase o, ?_⟩, h'.2.1, h'.2.2⟩
        · intro e; exact he (List.isEmpty_iff.2 e)
        · intro hw
          exfalso
          apply he
          have hl : g.owners.length = 1 := h'.1.2.2 hw
          have := List.length_erase_of_mem hm
          rw [List.isEmpty_iff, ← List.length_eq_zero_iff]
          omega
    · simp [Queue.dequeue, hm] at hd

theorem C19_history_wf {q q' : Queue} {os : List Nat} (h : WFq q) (hr : runHistory q os = some q') : WFq q' := by
  induction os generalizing q with
  | nil => simp at hr; exact hr ▸ h
  | cons o os ih =>
    rw [runHistory_cons] at hr
    cases hd : q.dequeue o with
    | none => simp [hd] at hr
    | some q1 =>
      rw [hd] at hr
      exact ih (C19_dequeue_wf h hd) hr

theorem C19_reachable_wf {reqs : List Req} {q : Queue} (h : Reachable reqs q) : WFq q := by
  obtain ⟨os, hos⟩ := h
  exact C19_history_wf (C19_build_wf reqs) hos

/-- the Bool checker used by the driver decides the invariant -/
theorem C19_wfq_iff (q : Queue) : wfq q = true ↔ WFq q := by
  induction q with
  | nil => simp [wfq, WFq]
  | cons g r ih =>
    cases r with
    | nil => cases hw : g.wr <;> simp [wfq, WFq, hw, and_assoc]
    | cons g' r' =>
      simp only [wfq, WFq, Bool.and_eq_true, ih]
      cases hw : g.wr <;> cases hw' : g'.wr <;> simp [and_assoc]

theorem C19_programOrder_nodup {reqs : List Req} (h : programOrder reqs = true) : reqs.Nodup :=
  sorted_nodup ((programOrder_iff_sorted reqs).1 h)

/-- program order excludes a read registered twice inside one run of reads, which is all `C19_abs_build` needs -/
theorem C19_programOrder_runsDistinct {reqs : List Req} (h : programOrder reqs = true) : RunsDistinct reqs :=
  RunsDistinct_of_nodup (C19_programOrder_nodup h)

theorem C19_abs_build (reqs : List Req) (h : RunsDistinct reqs) : abs (Queue.build reqs) = reqs := by
  have := abs_foldl_push reqs [] (by simpa using h)
  simpa [Queue.build] using this

/-- `can_access` is `canServe` on the pending list (`none` = `IndexError` on the empty queue on both sides) -/
theorem C19_canAccess_refines (q : Queue) (h : WFq q) (wr : Bool) (o : Nat) :
    q.canAccess wr o = canServe (abs q) wr o := by
  cases q with
  | nil => rfl
  | cons g rest =>
    cases hw : g.wr with
    | true =>
      obtain ⟨o', ho', habs⟩ := write_front h hw
      rw [habs, canServe_write_head]
      cases wr with
      | false => simp [Queue.canAccess, hw]
      | true => simp [Queue.canAccess, hw, ho']; rw [Bool.eq_iff_iff]; simp
    | false =>
      obtain ⟨_, hl, ha⟩ := read_front h hw
      have hne := ((WFq_cons g rest).1 h).1.1
      rw [canServe_of_leadReads (by rw [hl]; exact hne), hl, ha]
      cases wr with
      | false => simp [Queue.canAccess, hw]
      | true =>
        rcases behind_read h hw with h0 | ⟨g2, r, o2, hrest, ho2, h2⟩
        · subst h0; simp [Queue.canAccess, hw]
        · subst hrest
          rw [h2]
          simp [Queue.canAccess, hw, ho2]
          congr 1
          rw [Bool.eq_iff_iff]; simp only [decide_eq_true_eq, beq_iff_eq, Prod.mk.injEq, true_and]
          exact eq_comm

/-- `dequeue` is `removeSpec` on the pending list (`none` = the Python exception, on both sides) -/
theorem C19_dequeue_refines (q : Queue) (h : WFq q) (o : Nat) :
    (q.dequeue o).map abs = removeSpec (abs q) o := by
  cases q with
  | nil => rfl
  | cons g rest =>
    cases hw : g.wr with
    | true =>
      obtain ⟨o', ho', habs⟩ := write_front h hw
      rw [habs, removeSpec_write_head]
      by_cases e : o = o' <;> simp [Queue.dequeue, ho', e]
    | false =>
      obtain ⟨habs, hl, _⟩ := read_front h hw
      have hne := ((WFq_cons g rest).1 h).1.1
      rw [removeSpec_of_leadReads (by rw [hl]; exact hne), hl]
      by_cases hm : o ∈ g.owners
      · rw [if_pos hm, habs, map_erase_read _ _ _ hm]
        simp only [Queue.dequeue, if_pos hm]
        by_cases he : (g.owners.erase o).isEmpty = true
        · simp [List.isEmpty_iff.1 he]
        · simp [he, abs_cons, hw]
      · simp [Queue.dequeue, hm]

/-- the same for whole histories of removals -/
theorem C19_history_refines (q : Queue) (h : WFq q) (os : List Nat) :
    (runHistory q os).map abs = runSpec (abs q) os := by
  induction os generalizing q with
  | nil => simp
  | cons o os ih =>
    rw [runHistory_cons, runSpec_cons, ← C19_dequeue_refines q h]
    cases hd : q.dequeue o with
    | none => rfl
    | some q1 => simpa using ih q1 (C19_dequeue_wf h hd)

theorem C19_dequeue_removes {q q' : Queue} {o : Nat} (h : WFq q) (hd : q.dequeue o = some q') :
    abs q = (true, o) :: abs q' ∨ (o ∈ leadReads (abs q) ∧ abs q' = (abs q).erase (false, o)) := by
  have hr := C19_dequeue_refines q h o
  rw [hd] at hr
  exact (removeSpec_eq_some_iff _ _ _).1 hr.symm

theorem C19_mem_leadReads_iff (pending : List Req) (o : Nat) :
    o ∈ leadReads pending ↔ ∃ pre post, pending = pre ++ (false, o) :: post ∧ ∀ r ∈ pre, r.1 = false :=
  mem_leadReads_iff pending o

theorem C19_own_read_write_iff (pending : List Req) (o : Nat) :
    (leadReads pending = [o] ∧ (afterReads pending).head? = some (true, o)) ↔
      ∃ rest, pending = (false, o) :: (true, o) :: rest :=
  own_read_write_iff pending o

/-- request-level form: the three ways of being servable, and no other -/
theorem C19_served_iff (pending : List Req) (wr : Bool) (o : Nat) :
    canServe pending wr o = some true ↔
      (wr, o) ∈ pending ∧
      ((wr = false ∧ o ∈ leadReads pending) ∨
       (wr = true ∧ (pending.head? = some (true, o) ∨
          (leadReads pending = [o] ∧ (afterReads pending).head? = some (true, o))))) := by
  constructor
  · intro h
    exact ⟨mem_of_canServe h, (canServe_eq_some_true_iff pending wr o).1 h⟩
  · rintro ⟨_, h⟩
    exact (canServe_eq_some_true_iff pending wr o).2 h

theorem C19_head_iff_earlier_removed {reqs pending : List Req} (hnd : reqs.Nodup)
    (hsub : pending.Sublist reqs) (x : Req) :
    pending.head? = some x ↔
      x ∈ pending ∧ ∀ pre post, reqs = pre ++ x :: post → ∀ r ∈ pre, r ∉ pending := by
  constructor
  · intro hh
    obtain ⟨t, rfl⟩ : ∃ t, pending = x :: t := by
      cases pending with
      | nil => simp at hh
      | cons y t => simp at hh; exact ⟨t, by rw [hh]⟩
    refine ⟨by simp, ?_⟩
    rintro pre post rfl r hr hrp
    have hdis := (List.nodup_append.1 hnd).2.2
    have hx : x ∉ pre := fun hm => hdis x hm x (by simp) rfl
    exact hdis r hr r ((sublist_of_cons_sublist_append hsub hx).subset hrp) rfl
  · rintro ⟨hx, hall⟩
    cases pending with
    | nil => simp at hx
    | cons h t =>
      by_cases e : h = x
      · simp [e]
      · exfalso
        have hxt : x ∈ t := (List.mem_cons.1 hx).resolve_left (fun e' => e e'.symm)
        obtain ⟨pre, post, rfl⟩ := List.append_of_mem (hsub.subset hx)
        -- `h :: t` starts after `pre` and not at `x`: it lies inside `post`, and so does `x`, a second time
        have hs1 := sublist_of_cons_sublist_append hsub (fun hm => hall pre post rfl h hm (by simp))
        have hs2 : (h :: t).Sublist post := sublist_of_cons_sublist_append (pre := [x]) hs1 (by simpa using e)
        have hxpost : x ∈ post := hs2.subset (List.mem_cons_of_mem _ hxt)
        exact (List.nodup_cons.1 (List.nodup_append.1 hnd).2.1).1 hxpost

/-- along any history of successful removals the pending list is an order-preserving sublist of what was
registered -/
theorem C19_pending_sublist (reqs : List Req) (h : RunsDistinct reqs) (os : List Nat) (q : Queue)
    (hq : runHistory (Queue.build reqs) os = some q) : (abs q).Sublist reqs := by
  have hr := C19_history_refines _ (C19_build_wf reqs) os
  rw [hq, C19_abs_build reqs h] at hr
  exact runSpec_sublist hr.symm

/-- The first sentence holds for every registered sequence in which no request occurs twice; program order is needed
only to exclude repetitions. -/
theorem C19_served_iff_of_nodup (reqs : List Req) (hnd : reqs.Nodup) (q : Queue)
    (hq : Reachable reqs q) (wr : Bool) (o : Nat) :
    q.canAccess wr o = some true ↔
      (wr, o) ∈ abs q ∧
      ((∀ pre post, reqs = pre ++ (wr, o) :: post → ∀ r ∈ pre, r ∉ abs q) ∨
       (wr = false ∧ ∃ pre post, abs q = pre ++ (false, o) :: post ∧ ∀ r ∈ pre, r.1 = false) ∨
       (wr = true ∧ ∃ rest, abs q = (false, o) :: (true, o) :: rest)) := by
  have hwf := C19_reachable_wf hq
  obtain ⟨os, hos⟩ := hq
  have hsub := C19_pending_sublist reqs (RunsDistinct_of_nodup hnd) os q hos
  have hhead := C19_head_iff_earlier_removed hnd hsub (wr, o)
  rw [C19_canAccess_refines q hwf, C19_served_iff]
  constructor
  · rintro ⟨hm, h⟩
    refine ⟨hm, ?_⟩
    rcases h with ⟨hw, hl⟩ | ⟨hw, hh | hh⟩
    · exact Or.inr (Or.inl ⟨hw, (C19_mem_leadReads_iff _ _).1 hl⟩)
    · subst hw; exact Or.inl (hhead.1 hh).2
    · exact Or.inr (Or.inr ⟨hw, (C19_own_read_write_iff _ _).1 hh⟩)
  · rintro ⟨hm, h⟩
    refine ⟨hm, ?_⟩
    rcases h with h | ⟨hw, h⟩ | ⟨hw, h⟩
    · have hh := hhead.2 ⟨hm, h⟩
      cases wr with
      | true => exact Or.inr ⟨rfl, Or.inl hh⟩
      | false =>
        refine Or.inl ⟨rfl, ?_⟩
        cases hp : abs q with
        | nil => rw [hp] at hh; simp at hh
        | cons x t =>
          rw [hp] at hh
          simp only [List.head?_cons, Option.some.injEq] at hh
          subst hh; simp
    · exact Or.inl ⟨hw, (C19_mem_leadReads_iff _ _).2 h⟩
    · exact Or.inr ⟨hw, Or.inr ((C19_own_read_write_iff _ _).2 h)⟩

/-- **First sentence of C19, in the words of the text.**  `reqs` registered in program order, `q` any queue
reachable from `build reqs` by successful removals, `abs q` the requests still pending.  Then `can_access`
grants request `(wr, o)` exactly when it is pending and

* every request registered before it has been removed, or
* it is a read and every request still pending before it is a read (unbroken run of reads), or
* it is a write, its owner's own read is the oldest pending request and the write directly follows it (so no other
  reader remains in front of it). -/
theorem C19_served_iff_reachable (reqs : List Req) (hpo : programOrder reqs = true) (q : Queue)
    (hq : Reachable reqs q) (wr : Bool) (o : Nat) :
    q.canAccess wr o = some true ↔
      (wr, o) ∈ abs q ∧
      ((∀ pre post, reqs = pre ++ (wr, o) :: post → ∀ r ∈ pre, r ∉ abs q) ∨
       (wr = false ∧ ∃ pre post, abs q = pre ++ (false, o) :: post ∧ ∀ r ∈ pre, r.1 = false) ∨
       (wr = true ∧ ∃ rest, abs q = (false, o) :: (true, o) :: rest)) :=
  C19_served_iff_of_nodup reqs (C19_programOrder_nodup hpo) q hq wr o

/-- In program order a pending write directly behind its owner's pending read was registered directly after it. -/
theorem C19_own_pair_adjacent_in_reqs (reqs : List Req) (hpo : programOrder reqs = true) (pending : List Req)
    (hsub : pending.Sublist reqs) (o : Nat) (rest : List Req)
    (hp : pending = (false, o) :: (true, o) :: rest) :
    ∃ pre post, reqs = pre ++ (false, o) :: (true, o) :: post :=
  own_pair_adjacent ((programOrder_iff_sorted reqs).1 hpo) (hp ▸ hsub)

theorem C19_removable_iff_served (q : Queue) (h : WFq q) (o : Nat) :
    removable (abs q) o = true ↔ (q.canAccess true o = some true ∨ q.canAccess false o = some true) := by
  rw [C19_canAccess_refines q h, C19_canAccess_refines q h]
  constructor
  · exact canServe_of_removable
  · rintro (h | h) <;> exact removable_of_canServe h

theorem C19_dequeue_isSome (q : Queue) (h : WFq q) (o : Nat) :
    (q.dequeue o).isSome = removable (abs q) o := by
  rw [removable, ← C19_dequeue_refines q h o]
  cases q.dequeue o <;> rfl

theorem C19_permitted_removal_succeeds (q : Queue) (h : WFq q) (o : Nat)
    (hp : removable (abs q) o = true) : ∃ q', q.dequeue o = some q' := by
  rw [← C19_dequeue_isSome q h o] at hp
  exact Option.isSome_iff_exists.1 hp

theorem C19_served_removal_succeeds (q : Queue) (h : WFq q) (wr : Bool) (o : Nat)
    (hs : q.canAccess wr o = some true) : ∃ q', q.dequeue o = some q' := by
  apply C19_permitted_removal_succeeds q h o
  rw [C19_canAccess_refines q h] at hs
  exact removable_of_canServe hs

theorem C19_served_read_removed (q : Queue) (h : WFq q) (o : Nat) (hs : q.canAccess false o = some true) :
    ∃ q', q.dequeue o = some q' ∧ abs q' = (abs q).erase (false, o) := by
  obtain ⟨q', hq'⟩ := C19_served_removal_succeeds q h false o hs
  refine ⟨q', hq', ?_⟩
  rw [C19_canAccess_refines q h, canServe_eq_some_true_iff] at hs
  rcases C19_dequeue_removes h hq' with hd | hd
  · rcases hs with ⟨_, hl⟩ | ⟨hw, _⟩
    · rw [hd] at hl; simp at hl
    · cases hw
  · exact hd.2

/-- Self-dependent instruction (the situation of defect D1, DESIGN.md §1.2): when both the read and the write of one
owner are granted, the write directly follows the read at the front, and the two `dequeue`s the simulator then issues
both succeed and remove exactly these two requests. -/
theorem C19_own_pair_dequeues (q : Queue) (h : WFq q) (o : Nat)
    (hr : q.canAccess false o = some true) (hw : q.canAccess true o = some true) :
    ∃ q1 q2 rest, abs q = (false, o) :: (true, o) :: rest ∧
      q.dequeue o = some q1 ∧ abs q1 = (true, o) :: rest ∧
      q1.dequeue o = some q2 ∧ abs q2 = rest := by
  rw [C19_canAccess_refines q h] at hr hw
  -- the write is served as the head (then no read is served) or in the self-dependency shape
  obtain ⟨rest, hshape⟩ : ∃ rest, abs q = (false, o) :: (true, o) :: rest := by
    rcases (canServe_eq_some_true_iff _ true o).1 hw with ⟨hf, _⟩ | ⟨_, hh | hh⟩
    · cases hf
    · exfalso
      rcases (canServe_eq_some_true_iff _ false o).1 hr with ⟨_, hm⟩ | ⟨hf, _⟩
      · cases hp : abs q with
        | nil => rw [hp] at hh; cases hh
        | cons x t =>
          rw [hp, List.head?_cons, Option.some.injEq] at hh
          rw [hp, hh, leadReads_write] at hm
          cases hm
      · cases hf
    · exact (C19_own_read_write_iff _ o).1 hh
  have hrs := removeSpec_own_pair o rest
  have h1 := C19_dequeue_refines q h o
  rw [hshape, hrs.1] at h1
  cases hd1 : q.dequeue o with
  | none => rw [hd1] at h1; simp at h1
  | some q1 =>
    rw [hd1] at h1
    have ha1 : abs q1 = (true, o) :: rest := by simpa using h1
    have hwf1 := C19_dequeue_wf h hd1
    have h2 := C19_dequeue_refines q1 hwf1 o
    rw [ha1, hrs.2] at h2
    cases hd2 : q1.dequeue o with
    | none => rw [hd2] at h2; simp at h2
    | some q2 =>
      rw [hd2] at h2
      exact ⟨q1, q2, rest, hshape, rfl, ha1, hd2, by simpa using h2⟩

/-- progress: in a non-empty queue some owner has a permitted removal -/
theorem C19_progress (q : Queue) (h : WFq q) (hne : q ≠ []) : ∃ o, removable (abs q) o = true :=
  exists_removable (fun e => hne ((abs_eq_nil_iff h).1 e))

theorem C19_dequeue_length {q q' : Queue} {o : Nat} (h : WFq q) (hd : q.dequeue o = some q') :
    (abs q').length + 1 = (abs q).length := by
  have hr := C19_dequeue_refines q h o
  rw [hd] at hr
  exact removeSpec_length hr.symm

theorem C19_permitted_history_iff (q : Queue) (h : WFq q) (os : List Nat) :
    PermittedHistory (abs q) os ↔ ∃ q', runHistory q os = some q' := by
  rw [permittedHistory_iff, ← C19_history_refines q h os]
  cases runHistory q os <;> simp

theorem C19_history_length {q q' : Queue} {os : List Nat} (h : WFq q) (hr : runHistory q os = some q') :
    (abs q').length + os.length = (abs q).length := by
  have h1 := C19_history_refines q h os
  rw [hr] at h1
  exact runSpec_length h1.symm

theorem C19_history_extends (q : Queue) (h : WFq q) :
    ∃ os, PermittedHistory (abs q) os ∧ runHistory q os = some [] ∧ os.length = (abs q).length := by
  obtain ⟨os, hos⟩ := exists_runSpec_empty (abs q)
  have hp : PermittedHistory (abs q) os := (permittedHistory_iff _ _).2 (by simp [hos])
  obtain ⟨q', hq'⟩ := (C19_permitted_history_iff q h os).1 hp
  have h1 := C19_history_refines q h os
  rw [hq', hos] at h1
  have hnil : q' = [] := (abs_eq_nil_iff (C19_history_wf h hq')).1 (by simpa using h1)
  subst hnil
  have := runSpec_length hos
  exact ⟨os, hp, hq', by simpa using this⟩

/-- The second sentence needs of the registered sequence only that the built queue stands for it (`C19_abs_build`). -/
theorem C19_removals_total_of_runsDistinct (reqs : List Req) (hrd : RunsDistinct reqs) (os : List Nat) :
    (PermittedHistory reqs os →
      ∃ q, runHistory (Queue.build reqs) os = some q ∧ WFq q ∧ (abs q).Sublist reqs ∧
        (abs q).length + os.length = reqs.length) ∧
    (∀ q, runHistory (Queue.build reqs) os = some q → (q = [] ↔ os.length = reqs.length)) ∧
    (∀ q, runHistory (Queue.build reqs) os = some q →
      ∃ os', PermittedHistory (abs q) os' ∧ runHistory (Queue.build reqs) (os ++ os') = some [] ∧
        (os ++ os').length = reqs.length) := by
  have hwf := C19_build_wf reqs
  have habs := C19_abs_build reqs hrd
  refine ⟨?_, ?_, ?_⟩
  · intro hp
    rw [← habs] at hp
    obtain ⟨q, hq⟩ := (C19_permitted_history_iff _ hwf os).1 hp
    have hl := C19_history_length hwf hq
    rw [habs] at hl
    exact ⟨q, hq, C19_history_wf hwf hq, C19_pending_sublist reqs hrd os q hq, hl⟩
  · intro q hq
    have hl := C19_history_length hwf hq
    rw [habs] at hl
    have hwq := C19_history_wf hwf hq
    constructor
    · intro e; subst e; simpa using hl
    · intro e
      apply (abs_eq_nil_iff hwq).1
      apply List.length_eq_zero_iff.1
      omega
  · intro q hq
    have hwq := C19_history_wf hwf hq
    obtain ⟨os', hp, hr, hlen⟩ := C19_history_extends q hwq
    have hl := C19_history_length hwf hq
    rw [habs] at hl
    refine ⟨os', hp, ?_, ?_⟩
    · rw [runHistory_append, hq]; exact hr
    · rw [List.length_append]; omega

/-- **Second sentence of C19.**  `reqs` registered in program order, `q0 = build reqs`.

1. every permitted history of removals succeeds (never raises), keeps the queue well formed, and leaves an
   order-preserving sublist of `reqs` with exactly one request fewer per removal;
2. a successful history has emptied the queue exactly when it is as long as `reqs` (so any complete permitted
   order of removals ends with the empty queue, and no shorter one does);
3. every successful history can be extended by permitted removals to one that ends with the empty queue (no
   dead-lock inside the queue). -/
theorem C19_removals_total (reqs : List Req) (hpo : programOrder reqs = true) (os : List Nat) :
    (PermittedHistory reqs os →
      ∃ q, runHistory (Queue.build reqs) os = some q ∧ WFq q ∧ (abs q).Sublist reqs ∧
        (abs q).length + os.length = reqs.length) ∧
    (∀ q, runHistory (Queue.build reqs) os = some q → (q = [] ↔ os.length = reqs.length)) ∧
    (∀ q, runHistory (Queue.build reqs) os = some q →
      ∃ os', PermittedHistory (abs q) os' ∧ runHistory (Queue.build reqs) (os ++ os') = some [] ∧
        (os ++ os').length = reqs.length) :=
  C19_removals_total_of_runsDistinct reqs (C19_programOrder_runsDistinct hpo) os

section examples

-- `reqs0` below: a program-order sequence with two self-dependent owners (1 and 2)
local notation "reqs0" => ([(false, 0), (false, 1), (true, 1), (false, 2), (true, 2), (false, 3)] : List Req)

example : programOrder reqs0 = true := by decide +kernel
example : runsDistinct reqs0 = true := by decide +kernel
example : Queue.build reqs0 = [⟨false, [0, 1]⟩, ⟨true, [1]⟩, ⟨false, [2]⟩, ⟨true, [2]⟩, ⟨false, [3]⟩] := by decide +kernel
example : abs (Queue.build reqs0) = reqs0 := by decide +kernel
example : wfq (Queue.build reqs0) = true := by decide +kernel
-- reads of the leading run are served together; the write of 1 waits for the other reader 0
example : (Queue.build reqs0).canAccess false 0 = some true := by decide +kernel
example : (Queue.build reqs0).canAccess false 1 = some true := by decide +kernel
example : (Queue.build reqs0).canAccess true 1 = some false := by decide +kernel
example : (Queue.build reqs0).canAccess false 2 = some false := by decide +kernel
-- once reader 0 is removed, owner 1 is granted read and write together
example : ((Queue.build reqs0).dequeue 0).bind (fun q => q.canAccess true 1) = some true := by decide +kernel
example : ((Queue.build reqs0).dequeue 0).bind (fun q => q.canAccess false 1) = some true := by decide +kernel
-- the situation of defect D1: a lone self-dependent instruction is granted both its read and its write
example : (Queue.build [(false, 0), (true, 0)]).canAccess false 0 = some true ∧
    (Queue.build [(false, 0), (true, 0)]).canAccess true 0 = some true := by decide +kernel
example : runHistory (Queue.build [(false, 0), (true, 0)]) [0, 0] = some [] := by decide +kernel
example : (Queue.build []).canAccess true 0 = none ∧ (Queue.build []).dequeue 0 = none := by decide +kernel
-- complete permitted histories end with the empty queue, in either order of the two leading readers
example : runHistory (Queue.build reqs0) [0, 1, 1, 2, 2, 3] = some [] := by decide +kernel
example : runHistory (Queue.build reqs0) [1, 0, 1, 2, 2, 3] = some [] := by decide +kernel
-- a removal that is not permitted raises (owner 1's write while reader 0 is still pending)
example : runHistory (Queue.build reqs0) [1, 1] = none := by decide +kernel
example : removable (abs (Queue.build reqs0)) 2 = false := by decide +kernel
-- without the hypothesis of `C19_abs_build` the builder's set merges a repeated read
example : abs (Queue.build [(false, 0), (false, 0)]) = [(false, 0)] := by decide +kernel

end examples

end ProcSim
