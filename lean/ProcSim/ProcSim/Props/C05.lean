import ProcSim.Lemmas.RoutesCore
/-!
# C05 — single memory port

In every cycle of every diagram `simulate` hands out, at most one instruction *enters* a unit whose memory-access
list names its capability (`i` is hosted by `u` in cycle `t`, was not hosted by `u` in cycle `t-1`, and
`cap i ∈ acl u`).

Proof (`Lemmas/SimCore.lean`, memory-port accounting): an instruction found in unit `u` at the end of a cycle either
was in `u` in the previous record (then it is no entry) or was appended to `u` during the cycle by the fill loop or by
the issue loop.
Every append of a memory-needing instruction requires the threaded memory flag to be clear and sets it, so the
number of memory entries is bounded by the flag (`fillCycle_memNew_le_one`); relabelling does not change who is
hosted where. This is an upper-bound argument: it needs neither "no index hosted twice" nor the sink-first order,
only that unit names are unique (the record is keyed by name, the ACL belongs to the unit).
-/
namespace ProcSim
open Spec

attribute [local implicit_reducible] AMap

variable {N : Type} [DecidableEq N]

theorem memEntries_eq (p : Proc N) (prog : List (Instr N)) (tbl : List (Util N)) (stalled : Bool) (t : Nat) :
    memEntries (ctx p prog tbl stalled) t =
      memNew prog p.allUnits (prevRow tbl t) (tbl.getD t ([] : List (N × List HI))) := by
  unfold memEntries memNew
  congr 1
  apply List.map_congr_left
  intro u _
  unfold memNewAt
  rw [List.filter_map, List.length_map]
  congr 1
  apply List.filter_congr
  intro h hh
  rw [Ctx.entersAt_eq]
  have hin : (ctx p prog tbl stalled).isIn t u.name h.idx = true := by
    unfold Ctx.isIn
    exact List.any_eq_true.2 ⟨h, hh, by simp⟩
  rw [hin]
  rfl

theorem C05_ok_iff (p : Proc N) (prog : List (Instr N)) (tbl : List (Util N)) (stalled : Bool) :
    (Spec.C05 (ctx p prog tbl stalled)).ok = true ↔
      ∀ t, t < tbl.length →
        memNew prog p.allUnits (prevRow tbl t) (tbl.getD t ([] : List (N × List HI))) ≤ 1 := by
  simp only [Spec.C05, Clauses.ok_cons, Clauses.ok_nil, and_true, List.all_eq_true, List.mem_range, Ctx.T]
  constructor
  · intro h t ht
    have := of_decide_eq_true (h t ht)
    rwa [memEntries_eq] at this
  · intro h t ht
    apply decide_eq_true
    rw [memEntries_eq]
    exact h t ht

/-- instruction `i` *enters* unit `u` in cycle `t` of the diagram and needs the memory port there: it is hosted by `u`
in cycle `t`, was not hosted by `u` in the cycle before (`prevRow` = the empty record for `t = 0`), and its
capability is in `u`'s memory ACL -/
def MemEntry (p : Proc N) (prog : List (Instr N)) (tbl : List (Util N)) (t : Nat) (u : UnitM N) (i : Nat) : Prop :=
  u ∈ p.allUnits ∧
  i ∈ ((tbl.getD t ([] : List (N × List HI))).get u.name).map (·.idx) ∧
  i ∉ ((prevRow tbl t).get u.name).map (·.idx) ∧
  capIn prog i u.acl = true

theorem MemEntry.mem_filter {p : Proc N} {prog : List (Instr N)} {tbl : List (Util N)} {t : Nat} {u : UnitM N}
    {i : Nat} (h : MemEntry p prog tbl t u i) :
    i ∈ (((tbl.getD t ([] : List (N × List HI))).get u.name).map (·.idx)).filter
      (fun i => !(((prevRow tbl t).get u.name).any (fun o => o.idx == i)) && capIn prog i u.acl) := by
  obtain ⟨_, h1, h2, h3⟩ := h
  refine List.mem_filter.2 ⟨h1, ?_⟩
  have : ((prevRow tbl t).get u.name).any (fun o => o.idx == i) = false := by
    rw [List.any_eq_false]
    intro o ho e
    exact h2 (List.mem_map.2 ⟨o, ho, by simpa using e⟩)
  simp [this, h3]

theorem MemEntry.unique_of_memNew_le_one {p : Proc N} {prog : List (Instr N)} {tbl : List (Util N)} {t : Nat}
    (hle : memNew prog p.allUnits (prevRow tbl t) (tbl.getD t ([] : List (N × List HI))) ≤ 1)
    {u u' : UnitM N} {i i' : Nat} (h : MemEntry p prog tbl t u i) (h' : MemEntry p prog tbl t u' i') :
    u = u' ∧ i = i' := by
  have c1 : 1 ≤ memNewAt prog (prevRow tbl t) (tbl.getD t ([] : List (N × List HI))) u :=
    List.length_pos_of_mem h.mem_filter
  have c2 : 1 ≤ memNewAt prog (prevRow tbl t) (tbl.getD t ([] : List (N × List HI))) u' :=
    List.length_pos_of_mem h'.mem_filter
  by_cases hu : u = u'
  · subst hu
    have := le_sum_of_mem (memNewAt prog (prevRow tbl t) (tbl.getD t ([] : List (N × List HI)))) h.1
    unfold memNew at hle
    exact ⟨rfl, eq_of_mem_of_length_le_one (Nat.le_trans this hle) h.mem_filter h'.mem_filter⟩
  · exfalso
    have := add_le_sum_of_mem_ne (memNewAt prog (prevRow tbl t) (tbl.getD t ([] : List (N × List HI)))) h.1 h'.1 hu
    unfold memNew at hle
    omega

variable [LT N] [DecidableRel (α := N) (· < ·)]

/-- **C05**, from unique unit names only. -/
theorem C05_single_mem_entry_of_nodup (p : Proc N) (prog : List (Instr N)) (tbl : List (Util N)) (stalled : Bool)
    (hn : (p.allUnits.map (·.name)).Nodup) (h : Diagram p prog tbl stalled) :
    (Spec.C05 (ctx p prog tbl stalled)).ok = true :=
  (C05_ok_iff p prog tbl stalled).2 (Diagram_memNew_le_one hn h)

/-- **C05.** For a well-formed processor, every diagram of `simulate` passes the C05 checker: per cycle at most one
instruction enters a unit whose memory ACL names its capability. -/
theorem C05_single_mem_entry (p : Proc N) (prog : List (Instr N)) (tbl : List (Util N)) (stalled : Bool)
    (hwf : wfProc p = true) (h : Diagram p prog tbl stalled) :
    (Spec.C05 (ctx p prog tbl stalled)).ok = true :=
  C05_single_mem_entry_of_nodup p prog tbl stalled (wfProc_nodup_names hwf) h

/-- **C05 (readable form)**, from unique unit names only. In every cycle the pair (unit, instruction) that enters
needing the memory port is unique. -/
theorem C05_single_mem_entry'_of_nodup (p : Proc N) (prog : List (Instr N)) (tbl : List (Util N)) (stalled : Bool)
    (hn : (p.allUnits.map (·.name)).Nodup) (h : Diagram p prog tbl stalled) :
    ∀ t u i u' i', MemEntry p prog tbl t u i → MemEntry p prog tbl t u' i' → u = u' ∧ i = i' := by
  intro t u i u' i' h1 h2
  by_cases ht : t < tbl.length
  · exact MemEntry.unique_of_memNew_le_one (Diagram_memNew_le_one hn h t ht) h1 h2
  · -- beyond the end of the diagram nothing is hosted
    exfalso
    have := h1.2.1
    rw [List.getD_eq_getElem?_getD, List.getElem?_eq_none (by omega)] at this
    cases this

/-- **C05 (readable form).** In every cycle the pair (unit, instruction) that enters needing the memory port is
unique. -/
theorem C05_single_mem_entry' (p : Proc N) (prog : List (Instr N)) (tbl : List (Util N)) (stalled : Bool)
    (hwf : wfProc p = true) (h : Diagram p prog tbl stalled) :
    ∀ t u i u' i', MemEntry p prog tbl t u i → MemEntry p prog tbl t u' i' → u = u' ∧ i = i' :=
  C05_single_mem_entry'_of_nodup p prog tbl stalled (wfProc_nodup_names hwf) h

/-! ## Non-vacuity

Input port `0` (width 2, read lock) has capability `7` in its memory ACL; it feeds output port `1` (width 1, write
lock, no ACL). Three independent instructions of capability `7`. The processor is well-formed; the run returns a
diagram; although the input port has room for two, only one instruction enters it per cycle (the memory port is
taken); the run takes 4 cycles and each of the first three has exactly one memory entry (the bound of C05 is
attained). -/
namespace C05Example

def inP : UnitM Nat := ⟨0, 2, [7], true, false, [7]⟩
def outP : UnitM Nat := ⟨1, 1, [7], false, true, []⟩
def proc : Proc Nat := { inPorts := [inP], outPorts := [⟨outP, [0]⟩], inOut := [], internal := [] }
def prog : List (Instr Nat) := [⟨[10], 11, 7⟩, ⟨[12], 13, 7⟩, ⟨[14], 15, 7⟩]

example : wfProc proc = true := by decide +kernel

example : (match simulate proc prog with
    | .done tbl =>
      tbl.length == 4 &&
      -- one instruction in the (width-2) input port in the first cycle
      ((tbl.getD 0 ([] : List (Nat × List HI))).get 0).length == 1 &&
      -- memory entries per cycle
      (List.range 4).map (memEntries (ctx proc prog tbl false)) == [1, 1, 1, 0]
    | _ => false) = true := by decide +kernel

def isDone : Outcome Nat → Bool
  | .done _ => true
  | _ => false

example : ∃ tbl, Diagram proc prog tbl false ∧ (Spec.C05 (ctx proc prog tbl false)).ok = true := by
  have hd : isDone (simulate proc prog) = true := by decide +kernel
  cases h : simulate proc prog with
  | done tbl => exact ⟨tbl, Or.inl ⟨rfl, h⟩, C05_single_mem_entry proc prog tbl false (by decide +kernel) (Or.inl ⟨rfl, h⟩)⟩
  | stall tbl => rw [h] at hd; cases hd
  | fault f => rw [h] at hd; cases hd

end C05Example

end ProcSim
