import ProcSim.Lemmas.Hazards
import ProcSim.Lemmas.Routes
/-!
# C01 — register hazards respected: conflicting accesses occur in program order

"In every pipeline diagram the simulator returns or attaches to a stall error, whenever two instructions touch the same
register and at least one touch is a write, the earlier instruction is shown performing its touch (unstalled in the unit
that locks registers for reading, resp. writing) in a strictly earlier cycle than the later one performs its own."

"Replaying reads and writes in diagram order therefore gives every instruction the operand values, and the register file
the final contents, of sequential execution (no RAW, WAR or WAW violation)."

* first sentence: `C01_hazard_order` (the checker `Spec.C01`: clauses RAW / WAW / WAR over `Ctx.accs`), for returned
  and stall diagrams; consequences in reads-from form: `C01_write_order`, `C01_reads_from`, `C01_final_writer`;
* second sentence: `C01_replay_eq_sequential` (returned diagrams only: `replay` of the diagram = `seqRun`, for an
  arbitrary operation and initial register file), with `C01_access_exists` (every access is performed).

Everything rests on `ordered_of_conflict` (`ProcSim/Lemmas/Hazards.lean`), which comes from the queue invariant `PlanInv`
(every queue = the access plan's requests not yet shown granted) and the host invariant `HostInv` (walk of every hosted
instruction, position of the locks from `wfProc`), both in `ProcSim/Lemmas/HazardInv.lean`.

Hypotheses: `wfProc p` and `ProgOK prog` (no instruction lists a source register twice — guaranteed by the
`HwInstruction` constructor of the real code, which stores the sorted de-duplicated source tuple; with a repeated
source the *model* would dequeue the same read twice).
-/
namespace ProcSim
open Spec Hazards

attribute [local implicit_reducible] AMap

variable {N : Type} [DecidableEq N]

/-- every access of kind `kj` of `j` is preceded, in a strictly earlier cycle, by an access of kind `ki` of `i` -/
def Precedes (c : Ctx N) (ki kj : Bool) (i j : Nat) : Prop :=
  ∀ tj ∈ c.accs kj j, ∃ ti ∈ c.accs ki i, ti < tj

theorem orderedAcc_iff (c : Ctx N) (ki kj : Bool) (i j : Nat) : orderedAcc c ki kj i j = true ↔ Precedes c ki kj i j := by
  simp [orderedAcc, Precedes]

/-- C01, readable form: for instructions `i < j` of the program,
* RAW — if `j` reads the register `i` writes, `i`'s write access precedes `j`'s read access;
* WAW — if both write the same register, `i`'s write access precedes `j`'s;
* WAR — if `j` writes a register `i` reads, `i`'s read access precedes `j`'s write access
(`accs false k` / `accs true k`: the cycles in which `k` is shown unstalled in a unit holding the read / write lock). -/
def C01_Holds (c : Ctx N) : Prop :=
  ∀ i j insI insJ, i < j → c.prog[i]? = some insI → c.prog[j]? = some insJ →
    (insI.dst ∈ insJ.srcs → Precedes c true false i j) ∧
    (insI.dst = insJ.dst → Precedes c true true i j) ∧
    (insJ.dst ∈ insI.srcs → Precedes c false true i j)

theorem C01_pair_iff (c : Ctx N) {i j : Nat} {insI insJ : Instr N} (hI : c.prog[i]? = some insI)
    (hJ : c.prog[j]? = some insJ) :
    ((∀ r ∈ c.srcs j, (!c.writes i r || orderedAcc c true false i j) = true) ∧
      (match c.dst? j with
        | some r => !c.writes i r || orderedAcc c true true i j
        | none => true) = true ∧
      (match c.dst? j with
        | some r => !c.reads i r || orderedAcc c false true i j
        | none => true) = true) ↔
    ((insI.dst ∈ insJ.srcs → Precedes c true false i j) ∧ (insI.dst = insJ.dst → Precedes c true true i j) ∧
      (insJ.dst ∈ insI.srcs → Precedes c false true i j)) := by
  have hsJ : c.srcs j = insJ.srcs := by simp [Ctx.srcs, hJ]
  have hsI : c.srcs i = insI.srcs := by simp [Ctx.srcs, hI]
  have hdJ : c.dst? j = some insJ.dst := by simp [Ctx.dst?, hJ]
  have hdI : c.dst? i = some insI.dst := by simp [Ctx.dst?, hI]
  simp only [Ctx.writes, Ctx.reads, hsJ, hsI, hdJ, hdI, Bool.or_eq_true, Bool.not_eq_true', beq_eq_false_iff_ne,
    decide_eq_false_iff_not, ne_eq, Option.some.injEq, orderedAcc_iff]
  refine and_congr ⟨fun h hd => (h _ hd).resolve_left (fun hne => hne rfl), fun h r hr => ?_⟩ (and_congr ?_ ?_)
  · by_cases e : insI.dst = r
    · exact Or.inr (h (e ▸ hr))
    · exact Or.inl e
  · exact ⟨fun h hd => h.resolve_left (fun hne => hne hd), Decidable.not_or_of_imp⟩
  · exact ⟨fun h hd => h.resolve_left (fun hne => hne hd), Decidable.not_or_of_imp⟩

theorem C01_ok_iff (c : Ctx N) : (Spec.C01 c).ok = true ↔ C01_Holds c := by
  simp only [Spec.C01, Clauses.ok_cons, Clauses.ok_nil, and_true, List.all_eq_true, Prod.forall, mem_pairs]
  constructor
  · rintro ⟨h1, h2, h3⟩ i j insI insJ hij hI hJ
    have hjn : i < j ∧ j < c.n := ⟨hij, (List.getElem?_eq_some_iff.1 hJ).1⟩
    exact (C01_pair_iff c hI hJ).1 ⟨h1 i j hjn, h2 i j hjn, h3 i j hjn⟩
  · intro h
    have pair : ∀ i j, i < j ∧ j < c.n →
        ∃ insI insJ, c.prog[i]? = some insI ∧ c.prog[j]? = some insJ ∧ i < j := fun i j hij => by
      obtain ⟨insI, hI⟩ := exists_getElem?_of_lt (Nat.lt_trans hij.1 hij.2)
      obtain ⟨insJ, hJ⟩ := exists_getElem?_of_lt hij.2
      exact ⟨insI, insJ, hI, hJ, hij.1⟩
    refine ⟨fun i j hij => ?_, fun i j hij => ?_, fun i j hij => ?_⟩
    · obtain ⟨insI, insJ, hI, hJ, hlt⟩ := pair i j hij
      exact ((C01_pair_iff c hI hJ).2 (h i j insI insJ hlt hI hJ)).1
    · obtain ⟨insI, insJ, hI, hJ, hlt⟩ := pair i j hij
      exact ((C01_pair_iff c hI hJ).2 (h i j insI insJ hlt hI hJ)).2.1
    · obtain ⟨insI, insJ, hI, hJ, hlt⟩ := pair i j hij
      exact ((C01_pair_iff c hI hJ).2 (h i j insI insJ hlt hI hJ)).2.2

variable [LT N] [DecidableRel (α := N) (· < ·)]

/-- **C01 (readable form).** -/
theorem C01_hazard_order_readable (p : Proc N) (prog : List (Instr N)) (tbl : List (Util N)) (stalled : Bool)
    (hwf : wfProc p = true) (hp : ProgOK prog) (h : Diagram p prog tbl stalled) :
    C01_Holds (ctx p prog tbl stalled) := by
  intro i j insI insJ hij hI hJ
  have hI' : prog[i]? = some insI := hI
  have hJ' : prog[j]? = some insJ := hJ
  refine ⟨fun hd => ?_, fun hd => ?_, fun hd => ?_⟩
  · exact (orderedAcc_iff _ _ _ _ _).1 (ordered_of_conflict hwf hp h (r := insI.dst) hij
      (mem_reqsOf.2 ⟨insI, hI', rfl⟩) (mem_reqsOf.2 ⟨insJ, hJ', hd⟩) (Or.inl rfl))
  · exact (orderedAcc_iff _ _ _ _ _).1 (ordered_of_conflict hwf hp h (r := insI.dst) hij
      (mem_reqsOf.2 ⟨insI, hI', rfl⟩) (mem_reqsOf.2 ⟨insJ, hJ', hd.symm⟩) (Or.inl rfl))
  · exact (orderedAcc_iff _ _ _ _ _).1 (ordered_of_conflict hwf hp h (r := insJ.dst) hij
      (mem_reqsOf.2 ⟨insI, hI', hd⟩) (mem_reqsOf.2 ⟨insJ, hJ', rfl⟩) (Or.inr rfl))

/-- **C01.** For a well-formed processor and a program whose instructions list no source twice, every diagram of
`simulate` (returned, or carried by the stall error) passes the C01 checker: RAW, WAW and WAR hazards are respected. -/
theorem C01_hazard_order (p : Proc N) (prog : List (Instr N)) (tbl : List (Util N)) (stalled : Bool)
    (hwf : wfProc p = true) (hp : ProgOK prog) (h : Diagram p prog tbl stalled) :
    (Spec.C01 (ctx p prog tbl stalled)).ok = true :=
  (C01_ok_iff _).2 (C01_hazard_order_readable p prog tbl stalled hwf hp h)

/-! ## Corollaries in "reads-from" form

Access times are the elements of `Ctx.accs`; every access happens at most once (`C01_access_once`), so "the" read /
write cycle of an instruction is well defined whenever it exists. -/

def Writes (prog : List (Instr N)) (k : Nat) (r : N) : Prop := ∃ ins, prog[k]? = some ins ∧ ins.dst = r
def Reads (prog : List (Instr N)) (k : Nat) (r : N) : Prop := ∃ ins, prog[k]? = some ins ∧ r ∈ ins.srcs

omit [LT N] [DecidableRel (α := N) (· < ·)] in
theorem Writes.mem_reqsOf {prog : List (Instr N)} {k : Nat} {r : N} (h : Writes prog k r) :
    (true, k) ∈ reqsOf prog r := by
  obtain ⟨ins, h1, h2⟩ := h; exact Hazards.mem_reqsOf.2 ⟨ins, h1, h2⟩

omit [LT N] [DecidableRel (α := N) (· < ·)] in
theorem Reads.mem_reqsOf {prog : List (Instr N)} {k : Nat} {r : N} (h : Reads prog k r) :
    (false, k) ∈ reqsOf prog r := by
  obtain ⟨ins, h1, h2⟩ := h; exact Hazards.mem_reqsOf.2 ⟨ins, h1, h2⟩

section corollaries
variable (p : Proc N) (prog : List (Instr N)) (tbl : List (Util N)) (stalled : Bool)
  (hwf : wfProc p = true) (hp : ProgOK prog) (h : Diagram p prog tbl stalled)
include hwf hp h

/-- every instruction performs its read access (and its write access) in at most one cycle -/
theorem C01_access_once {k : Bool} {i t1 t2 : Nat} (h1 : t1 ∈ (ctx p prog tbl stalled).accs k i)
    (h2 : t2 ∈ (ctx p prog tbl stalled).accs k i) : t1 = t2 :=
  accs_unique hwf hp h h1 h2

/-- an instruction's read access is not after its write access (same cycle in a unit holding both locks) -/
theorem C01_read_before_own_write {i tr tw : Nat} (hr : tr ∈ (ctx p prog tbl stalled).accs false i)
    (hw : tw ∈ (ctx p prog tbl stalled).accs true i) : tr ≤ tw :=
  read_le_write hwf hp h hr hw

theorem C01_conflict_lt {r : N} {i j : Nat} {ki kj : Bool} (hij : i < j) (hi : (ki, i) ∈ reqsOf prog r)
    (hj : (kj, j) ∈ reqsOf prog r) (hconf : ki = true ∨ kj = true) {ti tj : Nat}
    (hti : ti ∈ (ctx p prog tbl stalled).accs ki i) (htj : tj ∈ (ctx p prog tbl stalled).accs kj j) : ti < tj := by
  obtain ⟨t, ht, hlt⟩ := (orderedAcc_iff _ _ _ _ _).1 (ordered_of_conflict hwf hp h hij hi hj hconf) tj htj
  rw [accs_unique hwf hp h hti ht]; exact hlt

/-- `hself` settles the case of one instruction's own two accesses -/
theorem C01_conflict_iff {r : N} {i j : Nat} {ki kj : Bool} (hi : (ki, i) ∈ reqsOf prog r)
    (hj : (kj, j) ∈ reqsOf prog r) (hconf : ki = true ∨ kj = true) {ti tj : Nat}
    (hti : ti ∈ (ctx p prog tbl stalled).accs ki i) (htj : tj ∈ (ctx p prog tbl stalled).accs kj j)
    (hself : i = j → ¬ ti < tj) : ti < tj ↔ i < j := by
  rcases Nat.lt_trichotomy i j with hlt | heq | hgt
  · exact ⟨fun _ => hlt, fun _ => C01_conflict_lt p prog tbl stalled hwf hp h hlt hi hj hconf hti htj⟩
  · exact ⟨fun hlt => absurd hlt (hself heq), fun hlt => absurd heq (Nat.ne_of_lt hlt)⟩
  · have := C01_conflict_lt p prog tbl stalled hwf hp h hgt hj hi hconf.symm htj hti
    omega

theorem C01_write_order {r : N} {k1 k2 t1 t2 : Nat} (hw1 : Writes prog k1 r) (hw2 : Writes prog k2 r)
    (ht1 : t1 ∈ (ctx p prog tbl stalled).accs true k1) (ht2 : t2 ∈ (ctx p prog tbl stalled).accs true k2) :
    t1 < t2 ↔ k1 < k2 :=
  C01_conflict_iff p prog tbl stalled hwf hp h hw1.mem_reqsOf hw2.mem_reqsOf (Or.inl rfl) ht1 ht2
    (fun e => by subst e; exact Nat.not_lt.2 (Nat.le_of_eq (accs_unique hwf hp h ht2 ht1)))

theorem C01_write_before_read_iff {r : N} {j k tj tk : Nat} (hr : Reads prog j r) (hw : Writes prog k r)
    (htj : tj ∈ (ctx p prog tbl stalled).accs false j) (htk : tk ∈ (ctx p prog tbl stalled).accs true k) :
    tk < tj ↔ k < j :=
  C01_conflict_iff p prog tbl stalled hwf hp h hw.mem_reqsOf hr.mem_reqsOf (Or.inl rfl) htk htj
    (fun e => by subst e; exact Nat.not_lt.2 (read_le_write hwf hp h htj htk))

/-- **reads-from**: let `k` be the program-order last writer of `r` before `j`. Then `k`'s write is performed before
`j`'s read of `r`, and no other write to `r` is performed between the two: `j` reads what `k` wrote. -/
theorem C01_reads_from {r : N} {j k tj tk : Nat} (hr : Reads prog j r) (hw : Writes prog k r) (hkj : k < j)
    (hlast : ∀ k', Writes prog k' r → k' < j → k' ≤ k)
    (htj : tj ∈ (ctx p prog tbl stalled).accs false j) (htk : tk ∈ (ctx p prog tbl stalled).accs true k) :
    tk < tj ∧ ∀ k' t', Writes prog k' r → t' ∈ (ctx p prog tbl stalled).accs true k' → t' < tj → t' ≤ tk := by
  refine ⟨(C01_write_before_read_iff p prog tbl stalled hwf hp h hr hw htj htk).2 hkj, ?_⟩
  intro k' t' hw' ht' hlt
  have hk'j := (C01_write_before_read_iff p prog tbl stalled hwf hp h hr hw' htj ht').1 hlt
  have hle := hlast k' hw' hk'j
  rcases Nat.lt_or_eq_of_le hle with hlt' | heq
  · exact Nat.le_of_lt ((C01_write_order p prog tbl stalled hwf hp h hw' hw ht' htk).2 hlt')
  · subst heq; exact Nat.le_of_eq (accs_unique hwf hp h ht' htk)

/-- no older writer: `j` reads the initial content of `r` -/
theorem C01_reads_initial {r : N} {j tj : Nat} (hr : Reads prog j r) (hnone : ∀ k', Writes prog k' r → ¬ k' < j)
    (htj : tj ∈ (ctx p prog tbl stalled).accs false j) :
    ∀ k' t', Writes prog k' r → t' ∈ (ctx p prog tbl stalled).accs true k' → ¬ t' < tj := by
  intro k' t' hw' ht' hlt
  exact hnone k' hw' ((C01_write_before_read_iff p prog tbl stalled hwf hp h hr hw' htj ht').1 hlt)

/-- **final writer**: the write of the program-order last writer of `r` is performed after every other write to `r`:
the register file ends with the value of sequential execution. -/
theorem C01_final_writer {r : N} {k k' t t' : Nat} (hw : Writes prog k r) (hlast : ∀ k', Writes prog k' r → k' ≤ k)
    (hw' : Writes prog k' r) (hne : k' ≠ k) (ht : t ∈ (ctx p prog tbl stalled).accs true k)
    (ht' : t' ∈ (ctx p prog tbl stalled).accs true k') : t' < t := by
  have : k' < k := Nat.lt_of_le_of_ne (hlast k' hw') hne
  exact (C01_write_order p prog tbl stalled hwf hp h hw' hw ht' ht).2 this

theorem C01_reads_from_iff {r : N} :
    (∀ j k tj tk, Reads prog j r → Writes prog k r → tj ∈ (ctx p prog tbl stalled).accs false j →
      tk ∈ (ctx p prog tbl stalled).accs true k → (tk < tj ↔ k < j)) ∧
    (∀ k1 k2 t1 t2, Writes prog k1 r → Writes prog k2 r → t1 ∈ (ctx p prog tbl stalled).accs true k1 →
      t2 ∈ (ctx p prog tbl stalled).accs true k2 → (t1 < t2 ↔ k1 < k2)) :=
  ⟨fun _ _ _ _ hr hw htj htk => C01_write_before_read_iff p prog tbl stalled hwf hp h hr hw htj htk,
   fun _ _ _ _ hw1 hw2 ht1 ht2 => C01_write_order p prog tbl stalled hwf hp h hw1 hw2 ht1 ht2⟩

end corollaries

namespace Hazards

/-- every issued instruction is still hosted or has performed both its read and its write access -/
def DoneInv (p : Proc N) (s : SimState N) : Prop :=
  ∀ i, i < s.entered → (∃ n, i ∈ (s.util.get n).map (·.idx)) ∨ ∀ k, grantedB p s.table k i = true

omit [LT N] [DecidableRel (α := N) (· < ·)] in
theorem DoneInv.init (p : Proc N) (prog : List (Instr N)) : DoneInv p (initState prog) := by
  intro i hi; simp [initState] at hi

omit [LT N] [DecidableRel (α := N) (· < ·)] in
theorem granted_of_outB {p : Proc N} {prog : List (Instr N)} (hwf : wfProc p = true) {s : SimState N}
    (hh : HostInv p prog s) {u : UnitM N} (hu : u ∈ p.allUnits) (hout : u.name ∈ p.outBoundary) {y : HI}
    (hy : y ∈ s.util.get u.name) (hyd : y.st ≠ .D) : ∀ k, grantedB p s.table k y.idx = true := by
  obtain ⟨ins, w, _, hwalk, hstart, hg⟩ := hh u hu y hy
  intro k
  have := maximal_walk_locks hwf hwalk hstart hout k
  rw [hg k]
  rw [List.any_append] at this
  have hd : (y.st != .D) = true := by simpa using hyd
  simpa [hd] using this

/-- Case split of the step: an instruction issued before the cycle and still hosted either survives the fill phase, or
it sat, not data-stalled, in an output-boundary port and is flushed, and then it has passed both locks
(`granted_of_outB`); one that had performed both accesses keeps them; one issued in this cycle is hosted. -/
theorem DoneInv.step {p : Proc N} {prog : List (Instr N)} (hwf : wfProc p = true) {s s' : SimState N}
    (hc : CoreInv p prog s) (hh : HostInv p prog s) (hdn : DoneInv p s)
    (hs : runCycle p prog s = .ok (some s')) : DoneInv p s' := by
  obtain ⟨lab, qs, hlab, _, _, rfl⟩ := runCycle_eq_some hs
  have hn := wfProc_nodup_names hwf
  have hF := fillCycle_issueInv prog s.util s.entered hn (wfProc_orderOK hwf)
  have hidx := labelAll_get_idx hlab
  intro i hi
  show (∃ n, i ∈ (lab.1.get n).map (·.idx)) ∨ ∀ k, grantedB p (lab.1 :: s.table) k i = true
  by_cases hlt : i < s.entered
  · rcases hdn i hlt with ⟨n, hn'⟩ | hg
    · obtain ⟨y, hy, hyi⟩ := List.mem_map.1 hn'
      by_cases hcond : n ∉ p.outBoundary ∨ y.st = .D
      · obtain ⟨n', hn''⟩ := hF.alive n y hy hcond
        left; exact ⟨n', by rw [hidx n', ← hyi]; exact hn''⟩
      · right
        have hout : n ∈ p.outBoundary := Classical.byContradiction (fun h => hcond (Or.inl h))
        have hyd : y.st ≠ .D := fun h => hcond (Or.inr h)
        have hne : s.util.get n ≠ [] := fun e => by rw [e] at hy; cases hy
        obtain ⟨u, hu, hun⟩ := List.mem_map.1 (hc.row.names n hne)
        subst hun
        intro k
        rw [grantedB_cons, ← hyi, granted_of_outB hwf hh hu hout hy hyd k]; simp
    · right; intro k; rw [grantedB_cons, hg k]; simp
  · obtain ⟨n, hn'⟩ := hF.hosted i (by omega) hi
    left; exact ⟨n, by rw [hidx n]; exact hn'⟩

end Hazards

/-- **In a returned diagram every instruction performs its read access and its write access** (in exactly one cycle
each, by `C01_access_once`): a finished run has moved every instruction through an output-boundary port, and on every
walk from an input port to the output boundary there is a read-locking and a write-locking unit. -/
theorem C01_access_exists (p : Proc N) (prog : List (Instr N)) (tbl : List (Util N))
    (hwf : wfProc p = true) (hp : ProgOK prog) (h : Diagram p prog tbl false) {i : Nat} (hi : i < prog.length)
    (k : Bool) : ∃ t, t ∈ (ctx p prog tbl false).accs k i := by
  obtain ⟨_, hroute⟩ := Diagram_routed_struct (structOK_of_wfProc hwf) h
  obtain ⟨s, ⟨hinv, hdn⟩, htbl, _, hfin⟩ := simulate_induction (p := p) (prog := prog)
    (fun s => HazardInv p prog s ∧ DoneInv p s) ⟨HazardInv.init p prog, DoneInv.init p prog⟩
    (fun s s' hs hr => ⟨hs.1.step hwf hp hr, hs.2.step hwf hs.1.core hs.1.host hr⟩) tbl false h
  have hf := hfin rfl
  simp only [SimState.finished, Bool.not_eq_true', Bool.or_eq_false_iff, decide_eq_false_iff_not,
    Nat.not_lt] at hf
  have hent : i < s.entered := by omega
  have hg : ∀ k, grantedB p s.table k i = true := by
    rcases hdn i hent with ⟨n, hn⟩ | hg
    · obtain ⟨y, hy, hyi⟩ := List.mem_map.1 hn
      have hy' : y ∈ (tbl.getD (tbl.length - 1) ([] : List (N × List HI))).get n := by
        rw [htbl, List.length_reverse, ← head?_getD_eq_reverse_getD, ← hinv.core.util_eq]; exact hy
      obtain ⟨hout, hU⟩ := (hroute.done rfl).2 n y hy'
      have hne : s.util.get n ≠ [] := fun e => by rw [e] at hy; cases hy
      obtain ⟨u, hu, hun⟩ := List.mem_map.1 (hinv.core.row.names n hne)
      subst hun
      intro k
      rw [← hyi]
      exact granted_of_outB hwf hinv.host hu hout hy (by rw [hU]; decide) k
    · exact hg
  have hd : (ctx p prog tbl false).doneBefore k i tbl.length = true := by
    rw [doneBefore_eq, List.take_length, htbl, grantedB_reverse]; exact hg k
  unfold Ctx.doneBefore at hd
  rw [List.any_eq_true] at hd
  obtain ⟨t, ht, _⟩ := hd
  exact ⟨t, ht⟩

section replay
variable {V : Type}
omit [LT N] [DecidableRel (α := N) (· < ·)]

def seqStep (op : Instr N → List V → V) (rf : N → V) (ins : Instr N) : N → V :=
  fun r => if ins.dst = r then op ins (ins.srcs.map rf) else rf r

def seqRun (op : Instr N → List V → V) (rf0 : N → V) (prog : List (Instr N)) : N → V :=
  prog.foldl (seqStep op) rf0

def seqOperands (op : Instr N → List V → V) (rf0 : N → V) (prog : List (Instr N)) (i : Nat) : List V :=
  match prog[i]? with
  | some ins => ins.srcs.map (seqRun op rf0 (prog.take i))
  | none => []

/-- the reads of cycle `t`: every instruction shown performing its read access latches the current values of its
sources -/
def readPhase (c : Ctx N) (t : Nat) (rf : N → V) (lat : Nat → List V) : Nat → List V :=
  (List.range c.n).foldl
    (fun lat i => if t ∈ c.accs false i then (fun j => if j = i then (c.srcs i).map rf else lat j) else lat) lat

/-- the writes of cycle `t`: every instruction shown performing its write access stores `op` of its latched operands -/
def writePhase (op : Instr N → List V → V) (c : Ctx N) (t : Nat) (lat : Nat → List V) (rf : N → V) : N → V :=
  (List.range c.n).foldl
    (fun rf i => if t ∈ c.accs true i then
        match c.prog[i]? with
        | some ins => (fun r => if ins.dst = r then op ins (lat i) else rf r)
        | none => rf
      else rf) rf

/-- one cycle of the replay: reads, then writes -/
def replayStep (op : Instr N → List V → V) (c : Ctx N) (st : (N → V) × (Nat → List V)) (t : Nat) :
    (N → V) × (Nat → List V) :=
  (writePhase op c t (readPhase c t st.1 st.2) st.1, readPhase c t st.1 st.2)

/-- replay of the diagram in cycle order: final register file and latched operands -/
def replay (op : Instr N → List V → V) (c : Ctx N) (rf0 : N → V) : (N → V) × (Nat → List V) :=
  (List.range c.T).foldl (replayStep op c) (rf0, fun _ => [])

theorem seqRun_take_succ (op : Instr N → List V → V) (rf0 : N → V) (prog : List (Instr N)) (j : Nat) :
    seqRun op rf0 (prog.take (j + 1)) =
      match prog[j]? with
      | some ins => seqStep op (seqRun op rf0 (prog.take j)) ins
      | none => seqRun op rf0 (prog.take j) := by
  unfold seqRun
  rw [List.take_add_one]
  cases prog[j]? with
  | none => simp
  | some ins => simp [List.foldl_append]

theorem seqRun_no_writer (op : Instr N → List V → V) (rf0 : N → V) (prog : List (Instr N)) (r : N) (j : Nat)
    (h : ∀ k, k < j → ¬ Writes prog k r) : seqRun op rf0 (prog.take j) r = rf0 r := by
  induction j with
  | zero => simp [seqRun]
  | succ j ih =>
    rw [seqRun_take_succ]
    have ih' := ih (fun k hk => h k (by omega))
    cases hp : prog[j]? with
    | none => exact ih'
    | some ins =>
      simp only [seqStep]
      have : ¬ ins.dst = r := fun e => h j (by omega) ⟨ins, hp, e⟩
      rw [if_neg this]; exact ih'

theorem seqRun_last_writer (op : Instr N → List V → V) (rf0 : N → V) (prog : List (Instr N)) (r : N) (k : Nat)
    (ins : Instr N) (hk : prog[k]? = some ins) (hd : ins.dst = r) (j : Nat) (hkj : k < j)
    (h : ∀ k', k < k' → k' < j → ¬ Writes prog k' r) :
    seqRun op rf0 (prog.take j) r = op ins (seqOperands op rf0 prog k) := by
  induction j with
  | zero => omega
  | succ j ih =>
    rw [seqRun_take_succ]
    by_cases e : k = j
    · subst e
      simp only [hk, seqStep, hd, if_true, seqOperands]
    · have ih' := ih (by omega) (fun k' h1 h2 => h k' h1 (by omega))
      cases hp : prog[j]? with
      | none => exact ih'
      | some ins' =>
        simp only [seqStep]
        have : ¬ ins'.dst = r := fun e' => h j (by omega) (by omega) ⟨ins', hp, e'⟩
        rw [if_neg this]; exact ih'

theorem foldl_latch {α : Type} (l : List Nat) (P : Nat → Prop) [DecidablePred P] (val : Nat → α) (lat : Nat → α)
    (j : Nat) :
    (l.foldl (fun lat i => if P i then (fun j => if j = i then val i else lat j) else lat) lat) j =
      if j ∈ l ∧ P j then val j else lat j := by
  induction l generalizing lat with
  | nil => simp
  | cons a l ih =>
    rw [List.foldl_cons, ih]
    by_cases hj : j ∈ l ∧ P j
    · rw [if_pos hj, if_pos ⟨List.mem_cons_of_mem _ hj.1, hj.2⟩]
    · rw [if_neg hj]
      by_cases ha : P a
      · simp only [ha, if_true]
        by_cases hja : j = a
        · subst hja; simp [ha]
        · rw [if_neg hja, if_neg]
          rintro ⟨h1, h2⟩
          rcases List.mem_cons.1 h1 with e | e
          · exact hja e
          · exact hj ⟨e, h2⟩
      · simp only [ha, if_false]
        rw [if_neg]
        rintro ⟨h1, h2⟩
        rcases List.mem_cons.1 h1 with e | e
        · subst e; exact ha h2
        · exact hj ⟨e, h2⟩

theorem foldl_write (prog : List (Instr N)) (op : Instr N → List V → V) (lat : Nat → List V) (l : List Nat)
    (P : Nat → Prop) [DecidablePred P] (init : N → V) (r : N) (x : V)
    (hv : ∀ i ∈ l, P i → ∀ ins, prog[i]? = some ins → ins.dst = r → op ins (lat i) = x)
    (hx : init r = x ∨ ∃ i ∈ l, P i ∧ ∃ ins, prog[i]? = some ins ∧ ins.dst = r) :
    (l.foldl (fun rf i => if P i then
        match prog[i]? with
        | some ins => (fun r' => if ins.dst = r' then op ins (lat i) else rf r')
        | none => rf
      else rf) init) r = x := by
  induction l generalizing init with
  | nil =>
    rcases hx with h | ⟨i, hi, _⟩
    · exact h
    · cases hi
  | cons a l ih =>
    rw [List.foldl_cons]
    refine ih _ (fun i hi => hv i (List.mem_cons_of_mem _ hi)) ?_
    by_cases hw : P a ∧ ∃ ins, prog[a]? = some ins ∧ ins.dst = r
    · obtain ⟨hPa, ins, hins, hd⟩ := hw
      left
      simp only [hPa, if_true, hins, hd]
      exact hv a List.mem_cons_self hPa ins hins hd
    · rcases hx with h | ⟨i, hi, hPi, hins⟩
      · left
        by_cases hPa : P a
        · simp only [hPa, if_true]
          cases hp : prog[a]? with
          | none => exact h
          | some ins =>
            have : ¬ ins.dst = r := fun e => hw ⟨hPa, ins, hp, e⟩
            simp only [this, if_false]; exact h
        · simp only [hPa, if_false]; exact h
      · rcases List.mem_cons.1 hi with e | e
        · subst e; exact absurd ⟨hPi, hins⟩ hw
        · right; exact ⟨i, e, hPi, hins⟩

/-- the access times of a diagram in which every instruction performs each access exactly once, and what C01 says about
them -/
structure AccTimes (c : Ctx N) (RT WT : Nat → Nat) : Prop where
  rt : ∀ i, i < c.n → ∀ t, t ∈ c.accs false i ↔ t = RT i
  wt : ∀ i, i < c.n → ∀ t, t ∈ c.accs true i ↔ t = WT i
  wlt : ∀ i, i < c.n → WT i < c.T
  rw : ∀ i, i < c.n → RT i ≤ WT i
  raw : ∀ j k r, j < c.n → k < c.n → Reads c.prog j r → Writes c.prog k r → (WT k < RT j ↔ k < j)
  ww : ∀ k1 k2 r, k1 < c.n → k2 < c.n → Writes c.prog k1 r → Writes c.prog k2 r → (WT k1 < WT k2 ↔ k1 < k2)

/-- after `m` replayed cycles: every read performed so far latched the sequential operand values, and every register
whose performed writes are exactly those of the instructions before `j` holds its sequential value before `j` -/
def ReplayInv (op : Instr N → List V → V) (rf0 : N → V) (c : Ctx N) (RT WT : Nat → Nat) (m : Nat)
    (st : (N → V) × (Nat → List V)) : Prop :=
  (∀ i, i < c.n → RT i < m → st.2 i = seqOperands op rf0 c.prog i) ∧
  (∀ r j, j ≤ c.n → (∀ k, k < c.n → Writes c.prog k r → (k < j ↔ WT k < m)) →
    st.1 r = seqRun op rf0 (c.prog.take j) r)

theorem ReplayInv.zero (op : Instr N → List V → V) (rf0 : N → V) (c : Ctx N) (RT WT : Nat → Nat) :
    ReplayInv op rf0 c RT WT 0 (rf0, fun _ => []) := by
  refine ⟨fun i _ h => by omega, fun r j hj h => ?_⟩
  symm
  apply seqRun_no_writer
  intro k hk hw
  have := (h k (by omega) hw).1 hk
  omega

theorem AccTimes.writer_unique {c : Ctx N} {RT WT : Nat → Nat} (hat : AccTimes c RT WT) {r : N} {i k : Nat}
    (hi : i < c.n) (hk : k < c.n) (hwi : Writes c.prog i r) (hwk : Writes c.prog k r) (e : WT i = WT k) : i = k :=
  Nat.le_antisymm
    (Nat.le_of_not_lt fun h => Nat.ne_of_lt ((hat.ww k i r hk hi hwk hwi).2 h) e.symm)
    (Nat.le_of_not_lt fun h => Nat.ne_of_lt ((hat.ww i k r hi hk hwi hwk).2 h) e)

/-- A read performed in cycle `m` finds in each source the sequential value, because by `raw` the writes to it performed
so far are exactly those of older instructions (second part of the invariant). -/
theorem ReplayInv.read {op : Instr N → List V → V} {rf0 : N → V} {c : Ctx N} {RT WT : Nat → Nat}
    (hat : AccTimes c RT WT) {m : Nat} {st : (N → V) × (Nat → List V)} (h : ReplayInv op rf0 c RT WT m st)
    {i : Nat} (hi : i < c.n) (hle : RT i ≤ m) : readPhase c m st.1 st.2 i = seqOperands op rf0 c.prog i := by
  unfold readPhase
  rw [foldl_latch (List.range c.n) (fun i => m ∈ c.accs false i) (fun i => (c.srcs i).map st.1) st.2 i]
  by_cases e : RT i = m
  · have hm : m ∈ c.accs false i := (hat.rt i hi m).2 e.symm
    rw [if_pos ⟨List.mem_range.2 hi, hm⟩]
    obtain ⟨ins, hins⟩ := exists_getElem?_of_lt (show i < c.prog.length from hi)
    simp only [Ctx.srcs, seqOperands, hins, Option.map_some, Option.getD_some]
    apply List.map_congr_left
    intro r hr
    apply h.2 r i (Nat.le_of_lt hi)
    intro k hk hw
    rw [← e]
    exact (hat.raw i k r hi hk ⟨ins, hins, hr⟩ hw).symm
  · have hm : ¬ m ∈ c.accs false i := fun hm => e ((hat.rt i hi m).1 hm).symm
    rw [if_neg (fun h => hm h.2)]
    exact h.1 i hi (Nat.lt_of_le_of_ne hle e)

/-- The writes of cycle `m` to a register `r`, once the reads performed up to `m` have latched the sequential operands:
by `ww` at most one instruction `k0` writes `r` in cycle `m`. If there is one, it is the last writer of `r` before `j`
and stores `op` of its latched operands; if there is none, `r` and the set of writes performed so far are unchanged. -/
theorem ReplayInv.write {op : Instr N → List V → V} {rf0 : N → V} {c : Ctx N} {RT WT : Nat → Nat}
    (hat : AccTimes c RT WT) {m : Nat} {st : (N → V) × (Nat → List V)} (h : ReplayInv op rf0 c RT WT m st)
    {lat : Nat → List V} (hlat : ∀ i, i < c.n → RT i ≤ m → lat i = seqOperands op rf0 c.prog i)
    {r : N} {j : Nat} (hj : j ≤ c.n) (hH : ∀ k, k < c.n → Writes c.prog k r → (k < j ↔ WT k < m + 1)) :
    writePhase op c m lat st.1 r = seqRun op rf0 (c.prog.take j) r := by
  unfold writePhase
  by_cases hex : ∃ k0, k0 < c.n ∧ Writes c.prog k0 r ∧ WT k0 = m
  · obtain ⟨k0, hk0, hw0, rfl⟩ := hex
    obtain ⟨ins0, hins0, hd0⟩ := hw0
    have hw0 : Writes c.prog k0 r := ⟨ins0, hins0, hd0⟩
    have hk0j : k0 < j := (hH k0 hk0 hw0).2 (Nat.lt_succ_self _)
    rw [seqRun_last_writer op rf0 c.prog r k0 ins0 hins0 hd0 j hk0j]
    · refine foldl_write c.prog op lat (List.range c.n) (fun i => WT k0 ∈ c.accs true i) st.1 r _ ?_ ?_
      · intro i hi hm ins hins hd
        have hi' : i < c.n := List.mem_range.1 hi
        have hWT : WT k0 = WT i := (hat.wt i hi' (WT k0)).1 hm
        obtain rfl : i = k0 := hat.writer_unique hi' hk0 ⟨ins, hins, hd⟩ hw0 hWT.symm
        obtain rfl : ins0 = ins := Option.some.inj (hins0.symm.trans hins)
        rw [hlat i hi' (hat.rw i hi')]
      · exact Or.inr ⟨k0, List.mem_range.2 hk0, (hat.wt k0 hk0 (WT k0)).2 rfl, ins0, hins0, hd0⟩
    · intro k' h1 h2 hw'
      have hk' : k' < c.n := Nat.lt_of_lt_of_le h2 hj
      have hle : WT k' < WT k0 + 1 := (hH k' hk' hw').1 h2
      have hlt : WT k0 < WT k' := (hat.ww k0 k' r hk0 hk' hw0 hw').2 h1
      exact Nat.not_le_of_lt hlt (Nat.le_of_lt_succ hle)
  · rw [← h.2 r j hj]
    · refine foldl_write c.prog op lat (List.range c.n) (fun i => m ∈ c.accs true i) st.1 r _ ?_ (Or.inl rfl)
      intro i hi hm ins hins hd
      have hi' : i < c.n := List.mem_range.1 hi
      exact absurd ⟨i, hi', ⟨ins, hins, hd⟩, ((hat.wt i hi' m).1 hm).symm⟩ hex
    · intro k hk hw
      rw [hH k hk hw]
      have hne : WT k ≠ m := fun e => hex ⟨k, hk, hw, e⟩
      exact ⟨fun hlt => Nat.lt_of_le_of_ne (Nat.le_of_lt_succ hlt) hne, Nat.lt_succ_of_lt⟩

theorem ReplayInv.step {op : Instr N → List V → V} {rf0 : N → V} {c : Ctx N} {RT WT : Nat → Nat}
    (hat : AccTimes c RT WT) {m : Nat} {st : (N → V) × (Nat → List V)} (h : ReplayInv op rf0 c RT WT m st) :
    ReplayInv op rf0 c RT WT (m + 1) (replayStep op c st m) :=
  have hread : ∀ i, i < c.n → RT i ≤ m → readPhase c m st.1 st.2 i = seqOperands op rf0 c.prog i :=
    fun _ hi hle => h.read hat hi hle
  ⟨fun i hi hlt => hread i hi (Nat.le_of_lt_succ hlt), fun _ _ hj hH => h.write hat hread hj hH⟩

theorem ReplayInv.run {op : Instr N → List V → V} {rf0 : N → V} {c : Ctx N} {RT WT : Nat → Nat}
    (hat : AccTimes c RT WT) (m : Nat) :
    ReplayInv op rf0 c RT WT m ((List.range m).foldl (replayStep op c) (rf0, fun _ => [])) := by
  induction m with
  | zero => exact ReplayInv.zero op rf0 c RT WT
  | succ m ih =>
    rw [List.range_succ, List.foldl_append]
    exact ih.step hat

theorem replay_eq_of_accTimes {op : Instr N → List V → V} {rf0 : N → V} {c : Ctx N} {RT WT : Nat → Nat}
    (hat : AccTimes c RT WT) :
    (replay op c rf0).1 = seqRun op rf0 c.prog ∧
      ∀ i, i < c.n → (replay op c rf0).2 i = seqOperands op rf0 c.prog i := by
  have h := ReplayInv.run (op := op) (rf0 := rf0) hat c.T
  refine ⟨?_, fun i hi => h.1 i hi (by have := hat.rw i hi; have := hat.wlt i hi; omega)⟩
  funext r
  have := h.2 r c.n (Nat.le_refl _) (fun k hk _ => ⟨fun _ => hat.wlt k hk, fun _ => hk⟩)
  show ((List.range c.T).foldl (replayStep op c) (rf0, fun _ => [])).1 r = _
  rw [this]
  congr 1
  exact List.take_length

end replay

section replayMain
variable {V : Type}

theorem C01_accTimes (p : Proc N) (prog : List (Instr N)) (tbl : List (Util N))
    (hwf : wfProc p = true) (hp : ProgOK prog) (h : Diagram p prog tbl false) :
    AccTimes (ctx p prog tbl false)
      (fun i => ((ctx p prog tbl false).accs false i).head?.getD 0)
      (fun i => ((ctx p prog tbl false).accs true i).head?.getD 0) := by
  have hiff : ∀ k i, i < prog.length → ∀ t, t ∈ (ctx p prog tbl false).accs k i ↔
      t = ((ctx p prog tbl false).accs k i).head?.getD 0 := by
    intro k i hi t
    obtain ⟨t0, ht0⟩ := C01_access_exists p prog tbl hwf hp h hi k
    cases hl : (ctx p prog tbl false).accs k i with
    | nil => rw [hl] at ht0; cases ht0
    | cons a rest =>
      have ha : a ∈ (ctx p prog tbl false).accs k i := by rw [hl]; exact List.mem_cons_self
      simp only [List.head?_cons, Option.getD_some]
      rw [← hl]
      exact ⟨fun ht => accs_unique hwf hp h ht ha, fun e => e ▸ ha⟩
  have hmem : ∀ k i, i < prog.length →
      ((ctx p prog tbl false).accs k i).head?.getD 0 ∈ (ctx p prog tbl false).accs k i :=
    fun k i hi => (hiff k i hi _).2 rfl
  refine ⟨hiff false, hiff true, ?_, ?_, ?_, ?_⟩
  · intro i hi
    exact ((mem_accs_iff _ _ _ _).1 (hmem true i hi)).1
  · intro i hi
    exact read_le_write hwf hp h (hmem false i hi) (hmem true i hi)
  · intro j k r hj hk hr hw
    exact C01_write_before_read_iff p prog tbl false hwf hp h hr hw (hmem false j hj) (hmem true k hk)
  · intro k1 k2 r h1 h2 hw1 hw2
    exact C01_write_order p prog tbl false hwf hp h hw1 hw2 (hmem true k1 h1) (hmem true k2 h2)

/-- **C01, second sentence: replay = sequential execution.** For a returned diagram, replaying the reads and writes it
shows, in cycle order (the reads of a cycle before its writes) and with an arbitrary operation `op` and initial register
file `rf0`, gives the register file the final contents, and every instruction the operand values, of sequential
execution: no RAW, WAR or WAW violation. -/
theorem C01_replay_eq_sequential (p : Proc N) (prog : List (Instr N)) (tbl : List (Util N))
    (hwf : wfProc p = true) (hp : ProgOK prog) (h : Diagram p prog tbl false)
    (op : Instr N → List V → V) (rf0 : N → V) :
    (replay op (ctx p prog tbl false) rf0).1 = seqRun op rf0 prog ∧
      ∀ i, i < prog.length → (replay op (ctx p prog tbl false) rf0).2 i = seqOperands op rf0 prog i :=
  replay_eq_of_accTimes (C01_accTimes p prog tbl hwf hp h)

end replayMain

/-! ## Non-vacuity

Processor over `Nat` names: capability `7` goes through input port `0` (width 1, read lock) and output port `1`
(width 1, write lock) — separate read-locking and write-locking units; capability `8` is served by the in-out port `2`
(width 2, both locks). Program (registers are numbers):

    I0: R1 := f(R2, R3)   cap 7
    I1: R4 := f(R1)       cap 8     RAW on R1 with I0
    I2: R2 := f(R5)       cap 8     WAR on R2 with I0
    I3: R4 := f(R6)       cap 7     WAW on R4 with I1
    I4: R7 := f(R1, R7)   cap 8     reads its own destination; RAW on R1 with I0

The run returns the 4-cycle diagram `table` below, in which all three kinds of hazard delay an instruction. -/
namespace C01Example

def rdU : UnitM Nat := ⟨0, 1, [7], true, false, []⟩
def wrU : UnitM Nat := ⟨1, 1, [7], false, true, []⟩
def bothU : UnitM Nat := ⟨2, 2, [8], true, true, []⟩
def proc : Proc Nat := { inPorts := [rdU], outPorts := [⟨wrU, [0]⟩], inOut := [bothU], internal := [] }
def prog : List (Instr Nat) :=
  [⟨[2, 3], 1, 7⟩, ⟨[1], 4, 8⟩, ⟨[5], 2, 8⟩, ⟨[6], 4, 7⟩, ⟨[1, 7], 7, 8⟩]

def table : List (Util Nat) :=
  [ [(2, [⟨1, .D⟩, ⟨2, .D⟩]), (1, []), (0, [⟨0, .U⟩])],
    [(2, [⟨1, .D⟩, ⟨2, .U⟩]), (1, [⟨0, .U⟩]), (0, [⟨3, .U⟩])],
    [(2, [⟨1, .U⟩, ⟨4, .U⟩]), (1, [⟨3, .D⟩]), (0, [])],
    [(2, []), (1, [⟨3, .U⟩]), (0, [])] ]

example : wfProc proc = true := by decide +kernel
example : progOK prog = true := by decide +kernel

def isDoneWith (o : Outcome Nat) (t : List (Util Nat)) : Bool :=
  match o with
  | .done t' => decide (t' = t)
  | _ => false

theorem eq_done_of_isDoneWith {o : Outcome Nat} {t : List (Util Nat)} (h : isDoneWith o t = true) : o = .done t := by
  cases o with
  | done t' => exact congrArg Outcome.done (of_decide_eq_true h)
  | stall _ => cases h
  | fault _ => cases h

theorem sim_done : isDoneWith (simulate proc prog) table = true := by decide +kernel

theorem sim_eq : simulate proc prog = .done table := eq_done_of_isDoneWith sim_done

example : Diagram proc prog table false ∧ (Spec.C01 (ctx proc prog table false)).ok = true :=
  ⟨Or.inl ⟨rfl, sim_eq⟩,
   C01_hazard_order proc prog table false (by decide +kernel) ((progOK_iff prog).1 (by decide +kernel)) (Or.inl ⟨rfl, sim_eq⟩)⟩

-- the checker agrees by evaluation
example : (Spec.C01 (ctx proc prog table false)).ok = true := by decide +kernel
-- access plan of R1: written by I0, then read by I1 and I4 together
example : reqsOf prog 1 = [(true, 0), (false, 1), (false, 4)] := by decide +kernel
example : (buildPlan prog).get 1 = [⟨true, [0]⟩, ⟨false, [1, 4]⟩] := by decide +kernel
-- access plan of R7: I4's own read, then its write
example : reqsOf prog 7 = [(false, 4), (true, 4)] := by decide +kernel
-- RAW: I0 writes R1 in cycle 1, I1 and I4 read it in cycle 2
example : (ctx proc prog table false).accs true 0 = [1] ∧ (ctx proc prog table false).accs false 1 = [2] ∧
    (ctx proc prog table false).accs false 4 = [2] := by decide +kernel
-- WAR: I0 reads R2 in cycle 0, I2 writes it in cycle 1
example : (ctx proc prog table false).accs false 0 = [0] ∧ (ctx proc prog table false).accs true 2 = [1] := by decide +kernel
-- WAW: I1 writes R4 in cycle 2, I3 in cycle 3
example : (ctx proc prog table false).accs true 1 = [2] ∧ (ctx proc prog table false).accs true 3 = [3] := by decide +kernel
-- the self-dependent I4 reads and writes R7 in the same cycle
example : (ctx proc prog table false).accs false 4 = [2] ∧ (ctx proc prog table false).accs true 4 = [2] := by decide +kernel
-- a diagram with the write of I0 and the read of I1 in the same cycle is rejected by the checker
example : (Spec.C01 (ctx proc prog
    [ [(2, [⟨1, .D⟩]), (0, [⟨0, .U⟩])], [(2, [⟨1, .U⟩]), (1, [⟨0, .U⟩])] ] false)).ok = false := by decide +kernel

-- replay of the diagram with a concrete operation (`sum of the operands + destination number`) and the initial
-- register file `R ↦ 100·R`: same final register file and operands as sequential execution
example : [1, 2, 4, 7].map (replay (fun ins vals => vals.sum + ins.dst) (ctx proc prog table false) (fun r => 100 * r)).1 =
    [1, 2, 4, 7].map (seqRun (fun ins vals => vals.sum + ins.dst) (fun r => 100 * r) prog) := by decide +kernel
example : (List.range 5).map (replay (fun ins vals => vals.sum + ins.dst) (ctx proc prog table false) (fun r => 100 * r)).2 =
    (List.range 5).map (seqOperands (fun ins vals => vals.sum + ins.dst) (fun r => 100 * r) prog) := by decide +kernel
example : (List.range 5).map (seqOperands (fun ins vals => vals.sum + ins.dst) (fun r => 100 * r) prog) =
    [[200, 300], [501], [500], [600], [501, 700]] := by decide +kernel

end C01Example

end ProcSim
