import ProcSim.Gen.RegAccess
import ProcSim.Lemmas.PyLite
import ProcSim.Lemmas.ListAux
import ProcSim.Props.C19
/-!
# Translator tie for `src/reg_access.py` (property C19; the queue layer of C01 / C02)

`ProcSim.Gen.reg_access` is **generated** from the Python source by `checks/py2lean.py` on every check run.  This file
proves that the generated definitions — Python's `RegAccQBuilder.append / create`, `RegAccessQueue.can_access /
dequeue`, the attrs constructors and the `_rev_groups` converter, with Python's exceptions as explicit results —
compute exactly the hand-written model `ProcSim.Queue` that every C19 / C01 / C02 theorem is about.

A change to `reg_access.py` changes the generated text; these proofs are then re-checked by Lean against the new text.
-/
namespace ProcSim.GenTie
open PyLite ProcSim ProcSim.Gen.reg_access ProcSim.Spec ProcSim.QueueLemmas

theorem idxNeg_concat {α} (xs : List α) (x : α) : idxNeg (xs ++ [x]) 1 = .ok x := by
  simp [idxNeg]

theorem idxNeg_nil {α} (k : Nat) : idxNeg ([] : List α) k = .error .indexError := by
  simp [idxNeg]

theorem idxNeg_concat2 {α} (xs : List α) (y x : α) : idxNeg (xs ++ [y, x]) 2 = .ok y := by
  simp [idxNeg]

theorem setIdxNeg_concat {α} (xs : List α) (x v : α) : setIdxNeg (xs ++ [x]) 1 v = .ok (xs ++ [v]) := by
  simp [setIdxNeg]

theorem idxNeg_concat_two {α} (xs : List α) (y x : α) : idxNeg (xs ++ [y, x]) 1 = .ok x := by
  have : xs ++ [y, x] = (xs ++ [y]) ++ [x] := by simp
  rw [this, idxNeg_concat]

theorem setIdxNeg_concat_two {α} (xs : List α) (y x v : α) : setIdxNeg (xs ++ [y, x]) 1 v = .ok (xs ++ [y, v]) := by
  have : xs ++ [y, x] = (xs ++ [y]) ++ [x] := by simp
  rw [this, setIdxNeg_concat]; simp

theorem delIdxNeg_concat {α} (xs : List α) (x : α) : delIdxNeg (xs ++ [x]) 1 = .ok xs := by
  simp [delIdxNeg, List.eraseIdx_append_of_length_le]

/-- on duplicate-free member lists Python's set equality with a singleton is the model's list equality -/
theorem set_eq_single {os : List Nat} (hnd : os.Nodup) (o : Nat) :
    PySet.eq (⟨os⟩ : PySet Nat) (PySet.single o) = (os == [o]) := by
  rw [Bool.eq_iff_iff, PySet.eq_iff, beq_iff_eq]
  constructor
  · intro h
    have ho : o ∈ os := (h o).2 (by simp [PySet.single])
    exact (sublist_eq_of_nodup_of_subset (List.singleton_sublist.2 ho) hnd (fun x hx => (h x).1 hx)).symm
  · rintro rfl x
    rfl

def encT : Bool → AccessType | true => .WRITE | false => .READ
/-- an access group; the member set keeps the model's (duplicate-free) member list -/
def encG (g : Group) : AccessGroup := ⟨encT g.wr, ⟨g.owners⟩⟩
/-- `RegAccessQueue`: Python keeps the groups reversed (queue front = list tail) -/
def encQ (q : Queue) : RegAccessQueue := ⟨(q.map encG).reverse⟩
/-- `RegAccQBuilder`: groups in registration order -/
def encB (q : Queue) : RegAccQBuilder := ⟨q.map encG⟩

/-- a model `Option` result as a Python result raising `e` for `none` -/
def liftO {α} (e : PyErr) : Option α → PyM α | none => .error e | some a => .ok a

theorem encT_inj (a b : Bool) : (encT a = encT b) ↔ a = b := by
  cases a <;> cases b <;> simp [encT]

/-- `RegAccessQueue.can_access` (generated from the source) = `Queue.canAccess`; the empty queue raises `IndexError` -/
theorem gen_can_access (q : Queue) (h : WFq q) (wr : Bool) (o : Nat) :
    (encQ q).can_access (encT wr) o = liftO .indexError (Queue.canAccess q wr o) := by
  cases q with
  | nil => simp [RegAccessQueue.can_access, encQ, idxNeg_nil, liftO, Queue.canAccess, bind, Except.bind]
  | cons g rest =>
    have hnd : g.owners.Nodup := ((WFq_cons g rest).1 h).1.2.1
    clear h
    obtain ⟨gw, gos⟩ := g
    -- by cases on the two access types, not along the source's `and` chain: the proof then also checks against
    -- the text regenerated from a source that spells the conjunction differently (early returns)
    simp only [RegAccessQueue.can_access, encQ, List.map_cons, List.reverse_cons, idxNeg_concat]
    cases rest with
    | nil =>
      simp only [bind, Except.bind, pure, Except.pure, encG, truthy, Truthy.truthy, pyIn, PySet.contains, pyAnd, pyLen,
        PyLen.pyLen, Queue.canAccess, liftO, pyEq, PyEq.pyEq, set_eq_single hnd]
      -- what is left after the four cases: membership in the front group, decided on both sides
      cases wr <;> cases gw <;> simp [encT]
      · rfl
      · rfl
    | cons g2 rest2 =>
      have e : ∀ (xs : List AccessGroup) (a b : AccessGroup), xs ++ [a] ++ [b] = xs ++ [a, b] := by simp
      simp only [List.map_cons, List.reverse_cons, e, idxNeg_concat2]
      simp only [bind, Except.bind, pure, Except.pure, encG, truthy, Truthy.truthy, pyIn, PySet.contains, pyAnd, pyLen,
        PyLen.pyLen, Queue.canAccess, liftO, pyEq, PyEq.pyEq, set_eq_single hnd]
      cases wr <;> cases gw <;> simp [encT]
      · rfl
      · by_cases h : gos = [o]
        · simp [h]
          rfl
        · simp [h]
      · rfl

/-- `RegAccessQueue.dequeue` (generated) = `Queue.dequeue`: `IndexError` on the empty queue, `KeyError` when the
owner is not in the front group, otherwise the new queue (an emptied front group is dropped) -/
theorem gen_dequeue (q : Queue) (o : Nat) :
    (encQ q).dequeue o =
      match Queue.dequeue q o with
      | some q' => .ok ((), encQ q')
      | none => .error (if q = [] then .indexError else .keyError) := by
  cases q with
  | nil => simp [RegAccessQueue.dequeue, encQ, idxNeg_nil, Queue.dequeue, bind, Except.bind]
  | cons g rest =>
    obtain ⟨gw, gos⟩ := g
    simp only [RegAccessQueue.dequeue, encQ, List.map_cons, List.reverse_cons, idxNeg_concat, setIdxNeg_concat,
      bind, Except.bind, pure, Except.pure, encG, pyRemove, PySet.remove, Queue.dequeue]
    by_cases hm : o ∈ gos
    · simp only [hm, if_true, idxNeg_concat, truthy, Truthy.truthy]
      by_cases he : (gos.erase o).isEmpty = true
      · simp [he, delIdxNeg_concat]
      · simp [he, encG]
    · simp [hm]

/-- `Queue.push` seen from the back of the list (where Python's builder works) -/
theorem push_concat (q : Queue) (g : Group) (wr : Bool) (o : Nat) :
    Queue.push (q ++ [g]) wr o =
      if !wr && !g.wr then q ++ [⟨false, Queue.addOwner g.owners o⟩] else q ++ [g, ⟨wr, [o]⟩] := by
  induction q with
  | nil => rfl
  | cons a t ih =>
    have hstep : Queue.push (a :: t ++ [g]) wr o = a :: Queue.push (t ++ [g]) wr o := by
      cases t <;> rfl
    rw [hstep, ih]
    split <;> rfl

theorem gen_can_merge (q : Queue) (wr : Bool) :
    (encB q)._can_merge (encT wr) =
      .ok (match q.getLast? with
           | none => false
           | some g => !wr && !g.wr) := by
  rcases List.eq_nil_or_concat q with rfl | ⟨q', g, rfl⟩
  · cases wr <;>
      simp [RegAccQBuilder._can_merge, encB, pyAnd, bind, Except.bind, pure, Except.pure, truthy, Truthy.truthy, pyEq,
        PyEq.pyEq, encT]
  · obtain ⟨gw, gos⟩ := g
    cases wr <;> cases gw <;>
      simp [RegAccQBuilder._can_merge, encB, pyAnd, bind, Except.bind, pure, Except.pure, truthy, Truthy.truthy, pyEq,
        PyEq.pyEq, encT, encG, idxNeg_concat]

/-- `reqs.add(owner)` on a group is the model's `addOwner` -/
theorem encG_addOwner (g : Group) (o : Nat) :
    (⟨(encG g).access_type, pyAdd (encG g).reqs o⟩ : AccessGroup) = encG ⟨g.wr, Queue.addOwner g.owners o⟩ := by
  unfold pyAdd PySet.add Queue.addOwner encG
  split <;> rfl

/-- `RegAccQBuilder.append` (generated) = `Queue.push`, and never raises -/
theorem gen_append (q : Queue) (wr : Bool) (o : Nat) :
    (encB q).append (encT wr) o = .ok ((), encB (q.push wr o)) := by
  simp only [RegAccQBuilder.append, bind, Except.bind, gen_can_merge, pure, Except.pure, truthy, Truthy.truthy, id,
    AccessGroup.new, PySet.copy, PySet.empty, pyAppend]
  -- in both branches the owner is added to the last group, which in the first is the new, empty one
  rcases List.eq_nil_or_concat q with rfl | ⟨q', g, rfl⟩
  · simp only [encB, List.getLast?_nil, Bool.not_false, if_true, List.map_nil, idxNeg_concat, setIdxNeg_concat,
      Queue.push]
    rfl
  · rw [List.concat_eq_append, push_concat]
    simp only [encB, List.getLast?_append, List.getLast?_singleton, Option.some_or, List.map_append, List.map_cons,
      List.map_nil, idxNeg_concat, setIdxNeg_concat, encG_addOwner]
    cases hm : !wr && !g.wr with
    | false =>
      simp only [Bool.not_false, if_true, Bool.false_eq_true, if_false, List.map_append, List.map_cons, List.map_nil,
        List.append_assoc, List.cons_append, List.nil_append]
      rfl
    | true =>
      rw [Bool.and_eq_true, Bool.not_eq_true', Bool.not_eq_true'] at hm
      simp only [Bool.not_true, Bool.false_eq_true, if_false, if_true, List.map_append, List.map_cons, List.map_nil,
        hm.2]

theorem gen_new : RegAccQBuilder.new = .ok (encB []) := rfl

/-- `RegAccQBuilder.create` (generated; goes through the `_rev_groups` converter) yields the queue of the model -/
theorem gen_create (q : Queue) : (encB q).create = .ok (encQ q) := by
  simp [RegAccQBuilder.create, RegAccessQueue.new, _rev_groups, reversedList, encB, encQ, bind, Except.bind, pure,
    Except.pure]

def genAppendAll : RegAccQBuilder → List Req → PyM RegAccQBuilder
  | b, [] => .ok b
  | b, r :: rest => do
    let (_, b') ← b.append (encT r.1) r.2
    genAppendAll b' rest

/-- `RegAccQBuilder()`, `append` for every request, `create()` -/
def genBuild (reqs : List Req) : PyM RegAccessQueue := do
  let b ← RegAccQBuilder.new
  let b ← genAppendAll b reqs
  b.create

def genRun : RegAccessQueue → List Nat → PyM RegAccessQueue
  | q, [] => .ok q
  | q, o :: os => do
    let (_, q') ← q.dequeue o
    genRun q' os

theorem genAppendAll_eq (q : Queue) (reqs : List Req) :
    genAppendAll (encB q) reqs = .ok (encB (reqs.foldl (fun q r => q.push r.1 r.2) q)) := by
  induction reqs generalizing q with
  | nil => rfl
  | cons r rest ih => simp [genAppendAll, gen_append, bind, Except.bind, ih]

/-- **building**: the generated constructor / `append` / `create` sequence never raises and yields exactly the model's
queue for the registered requests -/
theorem gen_build_eq (reqs : List Req) : genBuild reqs = .ok (encQ (Queue.build reqs)) := by
  simp [genBuild, gen_new, genAppendAll_eq, gen_create, Queue.build, bind, Except.bind]

/-- **histories**: a history of generated `dequeue`s succeeds exactly when the model's does, with the same queue -/
theorem gen_run_eq (q : Queue) (os : List Nat) :
    (genRun (encQ q) os).toOption = (runHistory q os).map encQ := by
  induction os generalizing q with
  | nil => simp [genRun, runHistory, Except.toOption]
  | cons o os ih =>
    simp only [genRun, runHistory_cons, gen_dequeue, bind, Except.bind]
    cases hd : q.dequeue o with
    | none => simp [Except.toOption]
    | some q' => simpa using ih q'

/-- **C19 for the code as translated from the source.**  For requests registered in program order through the
generated `RegAccQBuilder`, and any Python-side queue `pq` reached from the built queue by a history of generated
`dequeue` calls that did not raise: `pq` is the encoding of a model queue `q` with that same history, and the generated
`can_access` grants request `(wr, o)` exactly under the three conditions of the property (every earlier-registered
request removed / unbroken run of reads / the write directly following its owner's own sole read). -/
theorem C19_gen_served_iff (reqs : List Req) (hpo : programOrder reqs = true) (os : List Nat)
    (pq0 pq : RegAccessQueue) (hb : genBuild reqs = .ok pq0) (hr : genRun pq0 os = .ok pq) (wr : Bool) (o : Nat) :
    ∃ q, pq = encQ q ∧ runHistory (Queue.build reqs) os = some q ∧
      (pq.can_access (encT wr) o = .ok true ↔
        (wr, o) ∈ abs q ∧
        ((∀ pre post, reqs = pre ++ (wr, o) :: post → ∀ r ∈ pre, r ∉ abs q) ∨
         (wr = false ∧ ∃ pre post, abs q = pre ++ (false, o) :: post ∧ ∀ r ∈ pre, r.1 = false) ∨
         (wr = true ∧ ∃ rest, abs q = (false, o) :: (true, o) :: rest))) := by
  rw [gen_build_eq] at hb
  cases hb
  have h1 := gen_run_eq (Queue.build reqs) os
  rw [hr] at h1
  cases hq : runHistory (Queue.build reqs) os with
  | none => rw [hq] at h1; simp [Except.toOption] at h1
  | some q =>
    rw [hq] at h1
    have hpq : pq = encQ q := by simpa [Except.toOption] using h1
    refine ⟨q, hpq, rfl, ?_⟩
    have hreach : Reachable reqs q := ⟨os, hq⟩
    have hwf := C19_reachable_wf hreach
    rw [hpq, gen_can_access q hwf, ← C19_served_iff_reachable reqs hpo q hreach wr o]
    cases q.canAccess wr o with
    | none => simp [liftO]
    | some b => simp [liftO]

/-- **Second sentence of C19 for the translated code**: a generated `dequeue` raises exactly when the removal is not
permitted at the request level (owner has no servable request), and otherwise removes exactly that request. -/
theorem C19_gen_dequeue_total (q : Queue) (h : WFq q) (o : Nat) :
    (∃ pq', (encQ q).dequeue o = .ok ((), pq')) ↔ removable (abs q) o = true := by
  rw [gen_dequeue, ← C19_dequeue_isSome q h o]
  cases q.dequeue o with
  | none => simp
  | some q' => simp

/-- `ADD R1, R1, R2` followed by a reader of `R1`: requests for `R1` are read 0, write 0, read 1 -/
example : programOrder [(false, 0), (true, 0), (false, 1)] = true := by decide +kernel
example : (genBuild [(false, 0), (true, 0), (false, 1)]).toOption.map (fun q => q._queue.map (fun g => g.reqs.elems)) =
    some [[1], [0], [0]] := by decide +kernel
/-- the D1 situation on the generated code: owner 0's write is granted together with its own sole read -/
example : (do let q ← genBuild [(false, 0), (true, 0), (false, 1)]; q.can_access .WRITE 0).toOption = some true := by decide +kernel
example : (do let q ← genBuild [(false, 0), (true, 0), (false, 1)]; q.can_access .READ 1).toOption = some false := by decide +kernel
/-- Python's exceptions are explicit: `dequeue` of an absent owner is `KeyError`, on an empty queue `IndexError` -/
example : (do let q ← genBuild [(false, 0)]; q.dequeue 5).toOption = none := by decide +kernel
example : (match (do let q ← genBuild [(false, 0)]; let q ← genRun q [0]; q.can_access .READ 0) with
    | .error e => some e | .ok _ => none) = some PyErr.indexError := by decide +kernel

end ProcSim.GenTie
