import ProcSim.Lemmas.Isa
import ProcSim.Lemmas.Words
/-!
# C15 — instruction sets load and programs compile faithfully

Statements (specs in `ProcSim/Spec/Text.lean`, section C15):

* `C15_isa_load` — for **every** ISA table and capability list, the result of `Isa.loadIsa` satisfies `C15_LoadHolds`:
  accepted ⇒ no case-insensitive mnemonic collision, every capability offered, exactly one upper-cased entry per
  declared instruction mapped to a spelling the processor uses; `DupElemError(old, new)` ⇒ `old` is an earlier and
  `new` a later declared mnemonic, equal ignoring case; `UndefElemError(cap)` ⇒ `cap` is a declared capability
  that is not offered.
* `C15_isa_reject_iff` — accepted iff (no collision ∧ every capability offered). Which of the two errors is raised
  for an instruction set with both defects is not stated (`createIsa` stops at the first defective entry, mnemonic
  before capability: see the examples).
* `C15_abilities` — `get_abilities` is the case-insensitive union of the port capabilities, in the ports' spelling,
  one element per capability.
* `C15_compile` — order, length, operands preserved, mnemonic ↦ capability; fails exactly on the first unsupported
  mnemonic with its name and line in the message.

No ASCII hypothesis is needed anywhere: `upper x = upper y ↔ lower x = lower y` holds for all `List Char` because
`Char.toUpper`/`Char.toLower` change ASCII letters only (`C15_upper_eq_iff_lower_eq`; the two `Char` lemmas behind
it are Batteries', see `Lemmas/Isa.lean`).
-/
namespace ProcSim
open Spec Spec.Text IsaLemmas WordsLemmas
open ICase (lower upper)
open Isa (Str)

attribute [local implicit_reducible] AMap

/-- the folding fact the model's comment relies on — true for every `Char`, not only ASCII -/
theorem C15_upper_eq_iff_lower_eq (x y : List Char) : upper x = upper y ↔ lower x = lower y :=
  IsaLemmas.upper_eq_iff_lower_eq

/-- C15 (loading), all inputs -/
theorem C15_isa_load (isa : List (Str × Str)) (caps : List Str) :
    C15_LoadHolds isa caps (modelIsaObs isa caps) := by
  rw [modelIsaObs_eq]
  have := createIsa_holds caps isa [] [] [] (LoadInv.init caps)
  simpa [Isa.loadIsa] using this

/-- accepted iff no two mnemonics collide ignoring case and every capability is offered -/
theorem C15_isa_reject_iff (isa : List (Str × Str)) (caps : List Str) :
    (∃ m, Isa.loadIsa isa caps = .ok m) ↔ (¬ Collides isa ∧ ∀ e ∈ isa, offeredB caps e.2 = true) := by
  have h := C15_isa_load isa caps
  rw [modelIsaObs_eq] at h
  cases hl : Isa.loadIsa isa caps with
  | ok m =>
    rw [hl] at h
    simp only [isaObsOf, C15_LoadHolds] at h
    exact ⟨fun _ => ⟨h.1, h.2.1⟩, fun _ => ⟨m, rfl⟩⟩
  | error e =>
    rw [hl] at h
    refine ⟨fun ⟨m, hm⟩ => (by cases hm), fun hg => ?_⟩
    cases e with
    | dupInstr old new =>
      simp only [isaObsOf, C15_LoadHolds] at h
      obtain ⟨i, j, hij, x, y, hx, hy, hxo, hyn, hlo⟩ := h
      exact absurd ⟨i, j, hij, x, y, hx, hy, by rw [hxo, hyn]; exact hlo⟩ hg.1
    | undefCap cap =>
      simp only [isaObsOf, C15_LoadHolds] at h
      obtain ⟨⟨e, he, hc⟩, hoff⟩ := h
      have := hg.2 e he
      rw [hc, hoff] at this
      cases this

/-- rejection, by kind: every error is one of the two classes, with a real culprit -/
theorem C15_isa_first_error (isa : List (Str × Str)) (caps : List Str) (e : Isa.IsaError)
    (h : Isa.loadIsa isa caps = .error e) :
    match e with
    | .dupInstr old new => lower old = lower new ∧ RealDup old new isa
    | .undefCap cap => (∃ x ∈ isa, x.2 = cap) ∧ offeredB caps cap = false := by
  have hh := C15_isa_load isa caps
  rw [modelIsaObs_eq, h] at hh
  cases e with
  | dupInstr old new =>
    simp only [isaObsOf, C15_LoadHolds] at hh
    obtain ⟨i, j, hij, x, y, hx, hy, hxo, hyn, hlo⟩ := hh
    exact ⟨hlo, i, j, hij, x, y, hx, hy, hxo, hyn⟩
  | undefCap cap =>
    simpa only [isaObsOf, C15_LoadHolds] using hh

theorem lookAll_iff (isa m : List (Str × Str)) (caps : List Str) :
    (isa.all (fun e => match lookup m (upper e.1) with
        | some std => caps.contains std && lower std == lower e.2
        | none => false)) = true ↔
    ∀ e ∈ isa, ∃ std, lookup m (upper e.1) = some std ∧ std ∈ caps ∧ lower std = lower e.2 := by
  rw [List.all_eq_true]
  apply forall_congr'; intro e
  apply imp_congr_right; intro _
  cases lookup m (upper e.1) <;> simp

theorem keysAll_iff (isa m : List (Str × Str)) :
    (m.all (fun kv => isa.any (fun e => upper e.1 == kv.1))) = true ↔ ∀ kv ∈ m, ∃ e ∈ isa, kv.1 = upper e.1 := by
  simp only [List.all_eq_true, List.any_eq_true, beq_iff_eq, @eq_comm _ (upper _)]

/-- the driver's checker decides `C15_LoadHolds` (no side condition on `caps` is needed) -/
theorem checkC15Load_iff (isa : List (Str × Str)) (caps : List Str) (out : IsaObs) :
    checkC15Load isa caps out = none ↔ C15_LoadHolds isa caps out := by
  -- `checkC15Load … = none` says that no `if` of the checker fires (`ite_some_eq_none`); each `if` is one clause of
  -- `C15_LoadHolds`. For the two errors the checker also asks for `defective`, which the error's own clause implies.
  cases out with
  | other c => simp [checkC15Load, C15_LoadHolds]
  | ok m =>
    -- the four tests: `defective_false_iff` (no collision, all offered), the length, `lookAll_iff`, `keysAll_iff`
    simp only [checkC15Load, C15_LoadHolds, ite_some_eq_none, bne_eq_false_iff_eq, Bool.not_eq_false', and_true,
      defective_false_iff, keysAll_iff, and_assoc]
    rw [← lookAll_iff isa m caps]
    -- the `match` of the checker and that of `lookAll_iff` are two auxiliary definitions with one body
    exact Iff.rfl
  | dup old new =>
    simp only [checkC15Load, C15_LoadHolds, ite_some_eq_none, Bool.not_eq_false', Bool.and_eq_true, beq_iff_eq,
      realDup_iff, and_true, Bool.or_eq_true, collidesB_iff]
    constructor
    · rintro ⟨_, h3, i, j, hij, x, y, hx, hy, h1, h2⟩
      exact ⟨i, j, hij, x, y, hx, hy, h1, h2, h3⟩
    · rintro ⟨i, j, hij, x, y, hx, hy, h1, h2, h3⟩
      exact ⟨.inl ⟨i, j, hij, x, y, hx, hy, by rw [h1, h2]; exact h3⟩, h3, i, j, hij, x, y, hx, hy, h1, h2⟩
  | undef cap =>
    simp only [checkC15Load, C15_LoadHolds, ite_some_eq_none, Bool.not_eq_false', and_true]
    simp only [Bool.and_eq_true, Bool.not_eq_true', List.any_eq_true, beq_iff_eq, Bool.or_eq_true]
    constructor
    · rintro ⟨_, h⟩
      exact h
    · rintro ⟨⟨e, he, hc⟩, hoff⟩
      exact ⟨.inr ⟨e, he, by rw [hc]; exact hoff⟩, ⟨e, he, hc⟩, hoff⟩

theorem checkC15Load_model (isa : List (Str × Str)) (caps : List Str) :
    checkC15Load isa caps (modelIsaObs isa caps) = none :=
  (checkC15Load_iff _ _ _).2 (C15_isa_load isa caps)

/-- C15 (offered set) -/
theorem C15_abilities (portCaps : List (List Str)) :
    C15_AbilitiesHolds portCaps (Isa.getAbilities portCaps) := by
  unfold C15_AbilitiesHolds Isa.getAbilities
  refine ⟨?_, ?_, icaseSet_pairwise _⟩
  · intro c
    rw [offeredB_icaseSet, offeredB_iff]
    constructor
    · rintro ⟨d, hd, hdc⟩
      obtain ⟨p, hp, hdp⟩ := List.mem_flatten.1 hd
      exact ⟨p, hp, (offeredB_iff _ _).2 ⟨d, hdp, hdc⟩⟩
    · rintro ⟨p, hp, h⟩
      obtain ⟨d, hd, hdc⟩ := (offeredB_iff _ _).1 h
      exact ⟨d, List.mem_flatten.2 ⟨p, hp, hd⟩, hdc⟩
  · intro c hc
    exact List.mem_flatten.1 (mem_icaseSet hc)

/-- for a processor: the union over in-out ports and input ports -/
theorem C15_abilities_proc (p : Proc Str) :
    C15_AbilitiesHolds ((p.inOut ++ p.inPorts).map (·.caps)) (Isa.getAbilitiesProc p) :=
  C15_abilities _

theorem checkC15Abilities_iff (portCaps : List (List Str)) (out : List Str) :
    checkC15Abilities portCaps out = none ↔ C15_AbilitiesHolds portCaps out := by
  have hA : C15_AbilitiesHolds portCaps out ↔
      ((portCaps.flatten.all (fun c => offeredB out c)) = true ∧
       (out.all (fun c => portCaps.flatten.contains c)) = true ∧ noCaseDup out = true) := by
    unfold C15_AbilitiesHolds
    rw [noCaseDup_iff]
    simp only [List.all_eq_true, List.contains_iff_mem]
    constructor
    · rintro ⟨h1, h2, h3⟩
      refine ⟨?_, ?_, h3⟩
      · intro c hc
        obtain ⟨p, hp, hcp⟩ := List.mem_flatten.1 hc
        exact (h1 c).2 ⟨p, hp, (offeredB_iff _ _).2 ⟨c, hcp, rfl⟩⟩
      · intro c hc
        obtain ⟨p, hp, hcp⟩ := h2 c hc
        exact List.mem_flatten.2 ⟨p, hp, hcp⟩
    · rintro ⟨h1, h2, h3⟩
      refine ⟨?_, ?_, h3⟩
      · intro c
        constructor
        · intro h
          obtain ⟨d, hd, hdc⟩ := (offeredB_iff _ _).1 h
          obtain ⟨p, hp, hdp⟩ := List.mem_flatten.1 (h2 d hd)
          exact ⟨p, hp, (offeredB_iff _ _).2 ⟨d, hdp, hdc⟩⟩
        · rintro ⟨p, hp, h⟩
          obtain ⟨d, hd, hdc⟩ := (offeredB_iff _ _).1 h
          obtain ⟨e, he, hed⟩ := (offeredB_iff _ _).1 (h1 d (List.mem_flatten.2 ⟨p, hp, hd⟩))
          exact (offeredB_iff _ _).2 ⟨e, he, hed.trans hdc⟩
      · intro c hc
        exact List.mem_flatten.1 (h2 c hc)
  rw [hA]
  simp only [checkC15Abilities, ite_some_eq_none, Bool.not_eq_false', and_true]

theorem checkC15Abilities_model (portCaps : List (List Str)) :
    checkC15Abilities portCaps (Isa.getAbilities portCaps) = none :=
  (checkC15Abilities_iff _ _).2 (C15_abilities portCaps)

/-- loading against the offered set of a processor: rejected iff a collision or a capability no input/in-out port
has (ignoring case) -/
theorem C15_isa_reject_iff_ports (isa : List (Str × Str)) (portCaps : List (List Str)) :
    (∃ m, Isa.loadIsa isa (Isa.getAbilities portCaps) = .ok m) ↔
      (¬ Collides isa ∧ ∀ e ∈ isa, ∃ p ∈ portCaps, offeredB p e.2 = true) := by
  rw [C15_isa_reject_iff]
  have := (C15_abilities portCaps).1
  constructor
  · rintro ⟨h1, h2⟩; exact ⟨h1, fun e he => (this e.2).1 (h2 e he)⟩
  · rintro ⟨h1, h2⟩; exact ⟨h1, fun e he => (this e.2).2 (h2 e he)⟩

/-- the error message names the line as a word -/
theorem C15_compile_msg (name : Str) (line : Nat) :
    (words (Isa.CompileError.message { name := name, line := line })).contains (toString line) = true := by
  have h := words_contains_nat ("Unsupported instruction " ++ String.ofList name ++ " at line") line
  rw [String.append_assoc (s₂ := " at line") (s₃ := " "), show " at line" ++ " " = " at line " by decide] at h
  exact h

/-- C15 (compiling); the hypothesis is the `ProgInstruction` invariant of the Python class (sources are a sorted
duplicate-free tuple). It is assumed, not derived from `readProgram`; `C15_compile_raw` is the statement without it. -/
theorem C15_compile (isa : List (Str × Str)) (prog : List Program.ProgInstr)
    (hs : ∀ p ∈ prog, Program.sortedUniq p.srcs = p.srcs) :
    C15_CompileHolds isa prog (modelCompileObs isa prog) := by
  rw [modelCompileObs_eq]
  unfold C15_CompileHolds
  have hspec := compile_spec isa prog (fun p s => s = p.srcs) hs
  cases hf : firstUnsupported isa prog with
  | none =>
    rw [hf] at hspec
    obtain ⟨hw, hc, hF⟩ := hspec
    rw [hc]
    exact hF
  | some p =>
    rw [hf] at hspec
    rw [hspec]
    exact ⟨rfl, C15_compile_msg p.name p.line⟩

/-- without the invariant: everything except `h.srcs = p.srcs`, which becomes `h.srcs = sortedUniq p.srcs` -/
theorem C15_compile_raw (isa : List (Str × Str)) (prog : List Program.ProgInstr) :
    match firstUnsupported isa prog with
    | none => ∃ hw, Isa.compileProgram isa prog = .ok hw ∧
        Forall2 (fun (p : Program.ProgInstr) (h : Instr Str) =>
          h.srcs = Program.sortedUniq p.srcs ∧ h.dst = p.dst ∧ lookup isa (upper p.name) = some h.cap) prog hw
    | some p => Isa.compileProgram isa prog = .error { name := p.name, line := p.line } :=
  compile_spec isa prog (fun p s => s = Program.sortedUniq p.srcs) (fun _ _ => rfl)

theorem checkC15Compile_iff (isa : List (Str × Str)) (prog : List Program.ProgInstr) (out : CompileObs) :
    checkC15Compile isa prog out = none ↔ C15_CompileHolds isa prog out := by
  unfold checkC15Compile C15_CompileHolds
  cases firstUnsupported isa prog with
  | none =>
    cases out with
    | ok hw => exact checkCompiled_iff 0 isa prog hw
    | undef n m => simp
    | other c => simp
  | some p =>
    cases out with
    | ok hw => simp
    | other c => simp
    | undef n m =>
      simp only [ite_some_eq_none, bne_eq_false_iff_eq, Bool.not_eq_false', and_true]

theorem checkC15Compile_model (isa : List (Str × Str)) (prog : List Program.ProgInstr)
    (hs : ∀ p ∈ prog, Program.sortedUniq p.srcs = p.srcs) :
    checkC15Compile isa prog (modelCompileObs isa prog) = none :=
  (checkC15Compile_iff _ _ _).2 (C15_compile isa prog hs)

section Examples

/-- accepted: two instructions, capability respelled as the processor has it -/
example : checkC15Load [(['a', 'd', 'd'], ['a', 'l', 'u']), (['L', 'd'], ['M', 'e', 'm'])]
    [['A', 'L', 'U'], ['m', 'e', 'm']]
    (.ok [(['A', 'D', 'D'], ['A', 'L', 'U']), (['L', 'D'], ['m', 'e', 'm'])]) = none := by decide +kernel

/-- and that is what the model computes -/
example : (match Isa.loadIsa [(['a', 'd', 'd'], ['a', 'l', 'u']), (['L', 'd'], ['M', 'e', 'm'])]
      [['A', 'L', 'U'], ['m', 'e', 'm']] with
    | .ok m => decide (m = [(['A', 'D', 'D'], ['A', 'L', 'U']), (['L', 'D'], ['m', 'e', 'm'])])
    | .error _ => false) = true := by decide +kernel

/-- a wrong spelling of the capability is refuted by the checker -/
example : checkC15Load [(['a', 'd', 'd'], ['a', 'l', 'u'])] [['A', 'L', 'U']]
    (.ok [(['A', 'D', 'D'], ['a', 'l', 'u'])]) ≠ none := by decide +kernel

/-- collision: rejected with (earlier, later) spelling even though the capability is unsupported as well -/
example : (match Isa.loadIsa [(['a', 'd', 'd'], ['a', 'l', 'u']), (['A', 'd', 'd'], ['x'])] [['A', 'L', 'U']] with
    | .error (.dupInstr old new) => decide (old = ['a', 'd', 'd'] ∧ new = ['A', 'd', 'd'])
    | _ => false) = true := by decide +kernel

example : checkC15Load [(['a', 'd', 'd'], ['a', 'l', 'u']), (['A', 'd', 'd'], ['x'])] [['A', 'L', 'U']]
    (.dup ['a', 'd', 'd'] ['A', 'd', 'd']) = none := by decide +kernel

/-- the swapped report is refuted -/
example : checkC15Load [(['a', 'd', 'd'], ['a', 'l', 'u']), (['A', 'd', 'd'], ['x'])] [['A', 'L', 'U']]
    (.dup ['A', 'd', 'd'] ['a', 'd', 'd']) ≠ none := by decide +kernel

/-- unsupported capability -/
example : (match Isa.loadIsa [(['a', 'd', 'd'], ['a', 'l', 'u']), (['l', 'd'], ['m', 'e', 'm'])] [['A', 'L', 'U']] with
    | .error (.undefCap cap) => decide (cap = ['m', 'e', 'm'])
    | _ => false) = true := by decide +kernel

/-- accepting a defective instruction set is refuted -/
example : checkC15Load [(['l', 'd'], ['m', 'e', 'm'])] [['A', 'L', 'U']] (.ok [(['L', 'D'], ['m', 'e', 'm'])]) ≠ none := by
  decide +kernel

/-- offered set: first spelling in port order -/
example : Isa.getAbilities [[['A', 'L', 'U'], ['m', 'e', 'm']], [['a', 'l', 'u'], ['M', 'U', 'L']]] =
    [['A', 'L', 'U'], ['m', 'e', 'm'], ['M', 'U', 'L']] := by decide +kernel

example : checkC15Abilities [[['A', 'L', 'U']], [['a', 'l', 'u']]] [['A', 'L', 'U'], ['a', 'l', 'u']] ≠ none := by decide +kernel

/-- compilation: order and operands kept, mnemonic replaced -/
example : (match Isa.compileProgram [(['A', 'D', 'D'], ['A', 'L', 'U'])]
      [{ srcs := [['r', '1'], ['r', '2']], dst := ['r', '3'], name := ['a', 'd', 'd'], line := 1 }] with
    | .ok hw => decide (hw = [{ srcs := [['r', '1'], ['r', '2']], dst := ['r', '3'], cap := ['A', 'L', 'U'] }])
    | .error _ => false) = true := by decide +kernel

/-- first unsupported mnemonic with its line -/
example : (match Isa.compileProgram [(['A', 'D', 'D'], ['A', 'L', 'U'])]
      [{ srcs := [], dst := ['r', '3'], name := ['a', 'd', 'd'], line := 1 },
       { srcs := [], dst := ['r', '3'], name := ['m', 'u', 'l'], line := 4 },
       { srcs := [], dst := ['r', '3'], name := ['d', 'i', 'v'], line := 5 }] with
    | .error e => decide (e.name = ['m', 'u', 'l'] ∧ e.line = 4)
    | .ok _ => false) = true := by decide +kernel

end Examples

end ProcSim
