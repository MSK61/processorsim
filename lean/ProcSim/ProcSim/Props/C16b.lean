import ProcSim.Props.C03
import ProcSim.Props.C04
import ProcSim.Props.C05
import ProcSim.Props.C10
import ProcSim.Props.C12
import ProcSim.Props.C16
import ProcSim.Lemmas.Pipeline
import ProcSim.Lemmas.LoadedRoutes
import ProcSim.Lemmas.AccessPlan
/-!
# C16b — loaded processors are structurally well-formed; the unconditional command-line composition

Where the loader's guarantees (C10, C12) first meet the simulator's hypotheses. Every processor the loader accepts
satisfies `structOK` (`Lemmas/SimCore.lean`): unit names unique (C10), predecessor lists duplicate-free and naming
loaded units (C10: predecessors = kept connections between live units), output-boundary units nobody's predecessor
(C12: output / in-out port ⇔ no successor), output ports listed before the internal units and these sink-first (C12) —
which is what `Spec.orderOK` reads through `destPos`. Hence C03, C04, C05 hold for **every loaded processor and every
program**, and the last sentence of C16 for every completed run of `Pipeline.run`, with no hypothesis on the
processor. The lock-placement part of `wfProc` comes in `Props/LoadedWF.lean`.

The example pipeline `C16bExamples` serves `Props/C16c.lean` and `Props/LoadedWF.lean` as well; it is evaluated here,
once, together with the checks C16c needs of it (`C16cExamples.runChecks`; `Lemmas/LoadedRoutes` and
`Lemmas/AccessPlan` are imported for its `readNotAfterWrite` and `Hazards.progOK` only).
-/
namespace ProcSim
open Spec
open Loader Loader.Spec
open Spec.Text

variable {N : Type} [DecidableEq N] [LT N] [DecidableRel (α := N) (· < ·)]

/-- the name order of `Pipeline.run` (lexicographic by code point) meets the loader theorems' order hypothesis -/
theorem Loader.StrictTotal.listChar : Loader.StrictTotal (List Char) :=
  ⟨List.lt_irrefl, fun _ _ _ => List.lt_trans, fun a b => Std.lt_trichotomy a b⟩

/-- **Every loaded processor is structurally well-formed.** -/
theorem loaded_structOK (ho : Loader.StrictTotal N) (fold : N → N) {d : Loader.Desc N} {p : Proc N}
    (h : Loader.load fold d = .ok p) : structOK p = true := by
  have h10 := Loader.C10_usable_part fold h
  have h12 := Loader.C12_loaded ho fold h
  have hn : (p.allUnits.map (·.name)).Nodup := h10.nodup
  have hdn : ∀ d' ∈ p.dests, d'.model.name ∈ procNames p := fun d' hd' =>
    List.mem_map.2 ⟨d'.model, model_mem_allUnits_of_mem_dests hd', rfl⟩
  have hedge : ∀ d' ∈ p.dests, ∀ q ∈ d'.preds, edgeB p q d'.model.name = true := fun d' hd' q hq =>
    (Loader.edgeB_iff p q d'.model.name).2 ⟨d', hd', rfl, hq⟩
  have hqn : ∀ d' ∈ p.dests, ∀ q ∈ d'.preds, q ∈ procNames p := fun d' hd' q hq =>
    (h10.unitsExact q).2 ((h10.predsExact q d'.model.name).1 (hedge d' hd' q hq)).2.1
  have hout : ∀ d' ∈ p.dests, ∀ q ∈ d'.preds, q ∉ p.outBoundary := by
    intro d' hd' q hq hm
    have he := hedge d' hd' q hq
    have hq' := hqn d' hd' q hq
    simp only [Proc.outBoundary, List.mem_append] at hm
    rcases hm with hm | hm
    · have := ((h12.inOutIff q hq').1 hm).2 d'.model.name (hdn d' hd')
      rw [he] at this; cases this
    · have := ((h12.outputIff q hq').1 hm).2 d'.model.name (hdn d' hd')
      rw [he] at this; cases this
  have hout' : ∀ a ∈ p.outPorts, ∀ b ∈ p.dests, a.model.name ∉ b.preds := by
    intro a ha b hb hm
    exact hout b hb _ hm (by
      simp only [Proc.outBoundary, List.mem_append]
      exact Or.inr (List.mem_map.2 ⟨a, ha, rfl⟩))
  have hself : ∀ d' ∈ p.dests, d'.model.name ∉ d'.preds := by
    intro d' hd'
    rcases List.mem_append.1 (show d' ∈ p.outPorts ++ p.internal from hd') with hm | hm
    · exact hout' d' hm d' hd'
    · exact h12.sinkFirst.2 d' hm
  have hpw : p.dests.Pairwise (fun a b => a.model.name ∉ b.preds) := by
    show (p.outPorts ++ p.internal).Pairwise _
    rw [List.pairwise_append]
    refine ⟨?_, h12.sinkFirst.1, ?_⟩
    · apply List.pairwise_of_forall_mem_list
      intro a ha b hb
      exact hout' a ha b (List.mem_append_left _ hb)
    · intro a ha b hb
      exact hout' a ha b (List.mem_append_right _ hb)
  have hord := orderOK_of_sinkFirst hn (fun d' hd' q hq => ⟨hqn d' hd' q hq, hout d' hd' q hq⟩) hpw hself
  simp only [structOK, Bool.and_eq_true, decide_eq_true_eq, List.all_eq_true]
  exact ⟨⟨hn, hord⟩, h10.predsNodup⟩

/-- **C03 for every loaded processor** and every program: no hypothesis on the processor beyond acceptance. -/
theorem C03_loaded (ho : Loader.StrictTotal N) (fold : N → N) {d : Loader.Desc N} {p : Proc N}
    (hl : Loader.load fold d = .ok p) (prog : List (Instr N)) (tbl : List (Util N)) (stalled : Bool)
    (h : Diagram p prog tbl stalled) : (Spec.C03 (ctx p prog tbl stalled)).ok = true :=
  C03_routes_struct p prog tbl stalled (loaded_structOK ho fold hl) h

/-- **C04 for every loaded processor.** -/
theorem C04_loaded (ho : Loader.StrictTotal N) (fold : N → N) {d : Loader.Desc N} {p : Proc N}
    (hl : Loader.load fold d = .ok p) (prog : List (Instr N)) (tbl : List (Util N)) (stalled : Bool)
    (h : Diagram p prog tbl stalled) : (Spec.C04 (ctx p prog tbl stalled)).ok = true :=
  C04_width_of_nodup p prog tbl stalled (structOK_nodup_names (loaded_structOK ho fold hl)) h

/-- **C05 for every loaded processor.** -/
theorem C05_loaded (ho : Loader.StrictTotal N) (fold : N → N) {d : Loader.Desc N} {p : Proc N}
    (hl : Loader.load fold d = .ok p) (prog : List (Instr N)) (tbl : List (Util N)) (stalled : Bool)
    (h : Diagram p prog tbl stalled) : (Spec.C05 (ctx p prog tbl stalled)).ok = true :=
  C05_single_mem_entry_of_nodup p prog tbl stalled (structOK_nodup_names (loaded_structOK ho fold hl)) h

/-- **C16, last sentence, unconditionally.** Whenever the composed command-line model — load the processor, load the
ISA, parse, compile, simulate — completes with a diagram, the command line prints a table, and that table satisfies
`C16_Holds` for the diagram (one row per instruction, one column per cycle, every cell `label:unit` of the unit
hosting the instruction in that cycle). -/
theorem C16_cli_pipeline_total (desc : Loader.Desc Pipeline.Str) (rawIsa : List (Pipeline.Str × Pipeline.Str))
    (lines : List Pipeline.Str) (st : Pipeline.Stages) (tbl : List (Util Pipeline.Str))
    (hrun : Pipeline.run desc rawIsa lines = .ok (st, .done tbl)) :
    ∃ t, Pipeline.cliTable desc rawIsa lines = some t ∧ C16_Holds String.ofList tbl st.prog.length t := by
  obtain ⟨hf, hsim⟩ := Pipeline.run_ok hrun
  have hs : structOK st.proc = true :=
    loaded_structOK Loader.StrictTotal.listChar ICase.lower (Pipeline.front_ok hf).1
  exact C16_cli_pipeline desc rawIsa lines st tbl hrun (structOK_nodup_names hs)
    (C03_routes_struct st.proc st.prog tbl false hs (.inl ⟨rfl, hsim⟩))

/-! ## Non-vacuity

`N := Nat`: the scrambled DAG description of `Loader.C12Examples.exDesc` is accepted, the loaded processor satisfies
`structOK` (evaluated, and by the theorem).

`N := List Char`: a fork/join processor `fetch → {alu, lsu} → wb` described as text-level data, an ISA in mixed
case, a three-line program with a self-dependent last instruction: the composed pipeline completes, and the command
line prints the table shown (evaluated by `decide`); `C16_cli_pipeline_total` applies. -/
namespace C16bExamples

example : (match Loader.load id Loader.C12Examples.exDesc with
    | .ok p => structOK p
    | .error _ => false) = true := by decide +kernel

example : ∀ p, Loader.load id Loader.C12Examples.exDesc = .ok p → structOK p = true :=
  fun _ h => loaded_structOK Loader.StrictTotal.nat id h

def s (x : String) : List Char := x.toList

def desc : Loader.Desc Pipeline.Str :=
  ⟨[⟨s "fetch", 2, [s "ALU", s "MEM"], true, false, []⟩, ⟨s "alu", 1, [s "ALU"], false, false, []⟩,
    ⟨s "lsu", 1, [s "MEM"], false, false, [s "MEM"]⟩, ⟨s "wb", 1, [s "ALU", s "MEM"], false, true, []⟩],
   [[s "fetch", s "alu"], [s "fetch", s "lsu"], [s "alu", s "wb"], [s "lsu", s "wb"]]⟩
def rawIsa : List (Pipeline.Str × Pipeline.Str) := [(s "ADD", s "alu"), (s "LW", s "mem")]
def lines : List Pipeline.Str := [s "ADD R1, R2, R3", s "LW R4, R1", s "add r1, R1, r4"]

def isDoneRun : Except Pipeline.Failure (Pipeline.Stages × Outcome Pipeline.Str) → Bool
  | .ok (_, .done _) => true
  | _ => false

def table : List (List String) :=
  [["", "1", "2", "3", "4", "5", "6", "7", "8", "9"],
   ["I1", "U:fetch", "U:alu", "U:wb"],
   ["I2", "D:fetch", "D:fetch", "D:fetch", "U:fetch", "U:lsu", "U:wb"],
   ["I3", "", "D:fetch", "D:fetch", "D:fetch", "D:fetch", "D:fetch", "U:fetch", "U:alu", "U:wb"]]

/-- what the examples of `Props/C16c.lean` need of a run: it completes; its processor satisfies `readNotAfterWrite`
(and `wfProc`), its program `ProgOK`; all eight checkers accept the returned diagram -/
def _root_.ProcSim.C16cExamples.runChecks : Except Pipeline.Failure (Pipeline.Stages × Outcome Pipeline.Str) → Bool
  | .ok (st, .done tbl) =>
    readNotAfterWrite st.proc && wfProc st.proc && Hazards.progOK st.prog &&
    (List.range 8).all (fun k => match (simClauses (ctx st.proc st.prog tbl false))[k]? with
      | some x => x.2.ok
      | none => false)
  | _ => false

/-- one `decide` for the table and for the checks, so that the example pipeline is evaluated once -/
theorem table_and_checks :
    Pipeline.cliTable desc rawIsa lines = some table ∧ C16cExamples.runChecks (Pipeline.run desc rawIsa lines) = true := by
  decide +kernel

theorem isDoneRun_of_cliTable {d : Loader.Desc Pipeline.Str} {i : List (Pipeline.Str × Pipeline.Str)}
    {l : List Pipeline.Str} {t : List (List String)} (h : Pipeline.cliTable d i l = some t) :
    isDoneRun (Pipeline.run d i l) = true := by
  unfold Pipeline.cliTable at h
  split at h
  · next heq =>
    rw [heq]
    rfl
  · cases h

example : isDoneRun (Pipeline.run desc rawIsa lines) = true := isDoneRun_of_cliTable table_and_checks.1

example : Pipeline.cliTable desc rawIsa lines = some
    [["", "1", "2", "3", "4", "5", "6", "7", "8", "9"],
     ["I1", "U:fetch", "U:alu", "U:wb"],
     ["I2", "D:fetch", "D:fetch", "D:fetch", "U:fetch", "U:lsu", "U:wb"],
     ["I3", "", "D:fetch", "D:fetch", "D:fetch", "D:fetch", "D:fetch", "U:fetch", "U:alu", "U:wb"]] :=
  table_and_checks.1

example : ∃ st tbl t, Pipeline.run desc rawIsa lines = .ok (st, .done tbl) ∧
    Pipeline.cliTable desc rawIsa lines = some t ∧ C16_Holds String.ofList tbl st.prog.length t := by
  have hd := isDoneRun_of_cliTable table_and_checks.1
  cases h : Pipeline.run desc rawIsa lines with
  | error e => rw [h] at hd; cases hd
  | ok r =>
    obtain ⟨st, o⟩ := r
    cases o with
    | done tbl =>
      obtain ⟨t, h1, h2⟩ := C16_cli_pipeline_total desc rawIsa lines st tbl h
      exact ⟨st, tbl, t, rfl, h1, h2⟩
    | stall tbl => rw [h] at hd; cases hd
    | fault f => rw [h] at hd; cases hd

end C16bExamples

end ProcSim
