import ProcSim.Model.Canon
/-!
# The closed form the "marathon" cases of the simulator check use — kernel-checked for small sizes (TESTS, not a theorem)

`harness/comp_sim.py: marathon_case` runs the real simulator on `n` independent instructions (no sources, destinations
cycling over 7 registers) on a processor that is one in-out unit of width 1 holding both locks, for `n` in the
thousands, and judges the outcome against the closed form "exactly `n` cycles, cycle `t+1` shows instruction `t` alone and
unstalled".  For the model that closed form is an instance of C03 / C06 / C08; it is **not** proved here for every `n` —
below it is evaluated by the kernel (`decide`) for `n = 0 … 9`, which ties the formula to the model's definitions for
those sizes and nothing more.
-/
namespace ProcSim

/-- one in-out unit `0` of width 1, capability `0`, both locks -/
def marathonProc : Proc Nat := ⟨[], [], [⟨0, 1, [0], true, true, []⟩], []⟩

/-- `n` independent instructions writing registers `1 + (i mod 7)` -/
def marathonProg (n : Nat) : List (Instr Nat) := (List.range n).map (fun i => ⟨[], 1 + i % 7, 0⟩)

/-- the closed form: outcome `done` (code 0), `n` rows, row `t` = unit 0 hosting `(t, U)` (label rank 2) -/
def marathonExpected (n : Nat) : Nat × List (List (Nat × List (Nat × Nat))) :=
  (0, (List.range n).map (fun t => [(0, [(t, 2)])]))

example : outcomeCanon (simulate marathonProc (marathonProg 0)) = marathonExpected 0 := by decide +kernel
example : outcomeCanon (simulate marathonProc (marathonProg 1)) = marathonExpected 1 := by decide +kernel
example : outcomeCanon (simulate marathonProc (marathonProg 2)) = marathonExpected 2 := by decide +kernel
example : outcomeCanon (simulate marathonProc (marathonProg 5)) = marathonExpected 5 := by decide +kernel
example : outcomeCanon (simulate marathonProc (marathonProg 8)) = marathonExpected 8 := by decide +kernel
example : outcomeCanon (simulate marathonProc (marathonProg 9)) = marathonExpected 9 := by decide +kernel

end ProcSim
