import ProcSim.Props.LoadedWF
import ProcSim.Lemmas.Program
/-!
# C16c — the printed table inherits every diagram property (the last sentence of C16)

"The printed table therefore satisfies every diagram property above for the files' processor and program."

For the composed command-line model `Pipeline.run` (load the processor description, load the ISA, parse and compile
the program, simulate): when the run completes, a table is printed, it renders the returned diagram cell by cell
(`C16_Holds`), and that diagram satisfies C01–C08 for the loaded processor and the compiled program — provided the
loaded processor has no route whose write lock precedes its read lock (`readNotAfterWrite`, the one conjunct of
`wfProc` the loader does not check, see `Props/LoadedWF.lean`); without that proviso, C03, C04, C05. The same for a
run that raises the stall error, for the diagram it carries (`stalled := true`); no table is printed then. The program
hypothesis of C01/C02/C08 (`Hazards.ProgOK`: duplicate-free source tuples) holds of every compiled program, because
`compile_program` builds the tuples with `_sorted_uniq`.
-/
namespace ProcSim
open Spec Spec.Text

theorem compile_progOK (isa : AMap Pipeline.Str Pipeline.Str) (parsed : List Program.ProgInstr)
    (prog : List (Instr Pipeline.Str)) (h : Isa.compileProgram isa parsed = .ok prog) : Hazards.ProgOK prog :=
  (IsaLemmas.compile_ok_spec isa parsed (fun _ s => s.Nodup) (fun p _ => ProgramLemmas.sortedUniq_nodup p.srcs)
    h).forall_right (fun _ _ h => h.1)

theorem front_progOK (desc : Loader.Desc Pipeline.Str) (rawIsa : List (Pipeline.Str × Pipeline.Str))
    (lines : List Pipeline.Str) (st : Pipeline.Stages) (h : Pipeline.front desc rawIsa lines = .ok st) :
    Hazards.ProgOK st.prog :=
  compile_progOK st.isa st.parsed st.prog (Pipeline.front_ok h).2.2.2

theorem pipeline_diagram_struct (desc : Loader.Desc Pipeline.Str) (rawIsa : List (Pipeline.Str × Pipeline.Str))
    (lines : List Pipeline.Str) (st : Pipeline.Stages) (hf : Pipeline.front desc rawIsa lines = .ok st)
    (tbl : List (Util Pipeline.Str)) (stalled : Bool) (hD : Diagram st.proc st.prog tbl stalled) :
    (Spec.C03 (ctx st.proc st.prog tbl stalled)).ok = true ∧ (Spec.C04 (ctx st.proc st.prog tbl stalled)).ok = true ∧
    (Spec.C05 (ctx st.proc st.prog tbl stalled)).ok = true := by
  have hl := (Pipeline.front_ok hf).1
  have ho := Loader.StrictTotal.listChar
  exact ⟨C03_loaded ho _ hl _ _ _ hD, C04_loaded ho _ hl _ _ _ hD, C05_loaded ho _ hl _ _ _ hD⟩

theorem pipeline_diagram_all (desc : Loader.Desc Pipeline.Str) (rawIsa : List (Pipeline.Str × Pipeline.Str))
    (lines : List Pipeline.Str) (st : Pipeline.Stages) (hf : Pipeline.front desc rawIsa lines = .ok st)
    (hrw : readNotAfterWrite st.proc = true)
    (tbl : List (Util Pipeline.Str)) (stalled : Bool) (hD : Diagram st.proc st.prog tbl stalled) :
    (Spec.C01 (ctx st.proc st.prog tbl stalled)).ok = true ∧ (Spec.C02 (ctx st.proc st.prog tbl stalled)).ok = true ∧
    (Spec.C03 (ctx st.proc st.prog tbl stalled)).ok = true ∧ (Spec.C04 (ctx st.proc st.prog tbl stalled)).ok = true ∧
    (Spec.C05 (ctx st.proc st.prog tbl stalled)).ok = true ∧ (Spec.C06 (ctx st.proc st.prog tbl stalled)).ok = true ∧
    (Spec.C07 (ctx st.proc st.prog tbl stalled)).ok = true ∧ (Spec.C08 (ctx st.proc st.prog tbl stalled)).ok = true := by
  have hl := (Pipeline.front_ok hf).1
  have ho := Loader.StrictTotal.listChar
  have hp := front_progOK desc rawIsa lines st hf
  obtain ⟨h3, h4, h5⟩ := pipeline_diagram_struct desc rawIsa lines st hf tbl stalled hD
  exact ⟨C01_loaded ho _ hl hrw _ _ _ hp hD, C02_loaded ho _ hl hrw _ _ _ hp hD, h3, h4, h5,
    C06_loaded ho _ hl hrw _ _ _ hD, C07_loaded ho _ hl hrw _ _ _ hD, C08_loaded ho _ hl hrw _ _ _ hp hD⟩

/-- **C16, last sentence.** When the command-line pipeline completes, it prints a table; the table renders the
returned diagram cell by cell (`C16_Holds`); and that diagram satisfies every simulator property C01–C08 for the
files' processor and program (given that no route of the loaded processor has its write lock before its read
lock). -/
theorem C16_table_inherits (desc : Loader.Desc Pipeline.Str) (rawIsa : List (Pipeline.Str × Pipeline.Str))
    (lines : List Pipeline.Str) (st : Pipeline.Stages) (tbl : List (Util Pipeline.Str))
    (hrun : Pipeline.run desc rawIsa lines = .ok (st, .done tbl)) (hrw : readNotAfterWrite st.proc = true) :
    (∃ t, Pipeline.cliTable desc rawIsa lines = some t ∧ C16_Holds String.ofList tbl st.prog.length t) ∧
    (Spec.C01 (ctx st.proc st.prog tbl false)).ok = true ∧ (Spec.C02 (ctx st.proc st.prog tbl false)).ok = true ∧
    (Spec.C03 (ctx st.proc st.prog tbl false)).ok = true ∧ (Spec.C04 (ctx st.proc st.prog tbl false)).ok = true ∧
    (Spec.C05 (ctx st.proc st.prog tbl false)).ok = true ∧ (Spec.C06 (ctx st.proc st.prog tbl false)).ok = true ∧
    (Spec.C07 (ctx st.proc st.prog tbl false)).ok = true ∧ (Spec.C08 (ctx st.proc st.prog tbl false)).ok = true := by
  obtain ⟨hf, hsim⟩ := Pipeline.run_ok hrun
  exact ⟨C16_cli_pipeline_total desc rawIsa lines st tbl hrun,
    pipeline_diagram_all desc rawIsa lines st hf hrw tbl false (.inl ⟨rfl, hsim⟩)⟩

/-- … without any hypothesis on the loaded processor: the table is printed and renders a diagram satisfying C03,
C04 and C05 -/
theorem C16_table_inherits_struct (desc : Loader.Desc Pipeline.Str) (rawIsa : List (Pipeline.Str × Pipeline.Str))
    (lines : List Pipeline.Str) (st : Pipeline.Stages) (tbl : List (Util Pipeline.Str))
    (hrun : Pipeline.run desc rawIsa lines = .ok (st, .done tbl)) :
    (∃ t, Pipeline.cliTable desc rawIsa lines = some t ∧ C16_Holds String.ofList tbl st.prog.length t) ∧
    (Spec.C03 (ctx st.proc st.prog tbl false)).ok = true ∧ (Spec.C04 (ctx st.proc st.prog tbl false)).ok = true ∧
    (Spec.C05 (ctx st.proc st.prog tbl false)).ok = true := by
  obtain ⟨hf, hsim⟩ := Pipeline.run_ok hrun
  exact ⟨C16_cli_pipeline_total desc rawIsa lines st tbl hrun,
    pipeline_diagram_struct desc rawIsa lines st hf tbl false (.inl ⟨rfl, hsim⟩)⟩

/-- **The stall error.** When the pipeline ends with the stall error, no table is printed, and the diagram the error
carries satisfies C01–C08 (with `stalled := true`). -/
theorem C16_stall_inherits (desc : Loader.Desc Pipeline.Str) (rawIsa : List (Pipeline.Str × Pipeline.Str))
    (lines : List Pipeline.Str) (st : Pipeline.Stages) (tbl : List (Util Pipeline.Str))
    (hrun : Pipeline.run desc rawIsa lines = .ok (st, .stall tbl)) (hrw : readNotAfterWrite st.proc = true) :
    Pipeline.cliTable desc rawIsa lines = none ∧
    (Spec.C01 (ctx st.proc st.prog tbl true)).ok = true ∧ (Spec.C02 (ctx st.proc st.prog tbl true)).ok = true ∧
    (Spec.C03 (ctx st.proc st.prog tbl true)).ok = true ∧ (Spec.C04 (ctx st.proc st.prog tbl true)).ok = true ∧
    (Spec.C05 (ctx st.proc st.prog tbl true)).ok = true ∧ (Spec.C06 (ctx st.proc st.prog tbl true)).ok = true ∧
    (Spec.C07 (ctx st.proc st.prog tbl true)).ok = true ∧ (Spec.C08 (ctx st.proc st.prog tbl true)).ok = true := by
  obtain ⟨hf, hsim⟩ := Pipeline.run_ok hrun
  refine ⟨?_, pipeline_diagram_all desc rawIsa lines st hf hrw tbl true (.inr ⟨rfl, hsim⟩)⟩
  unfold Pipeline.cliTable
  rw [hrun]

/-- … without any hypothesis on the loaded processor: C03, C04, C05 for the carried diagram -/
theorem C16_stall_inherits_struct (desc : Loader.Desc Pipeline.Str) (rawIsa : List (Pipeline.Str × Pipeline.Str))
    (lines : List Pipeline.Str) (st : Pipeline.Stages) (tbl : List (Util Pipeline.Str))
    (hrun : Pipeline.run desc rawIsa lines = .ok (st, .stall tbl)) :
    Pipeline.cliTable desc rawIsa lines = none ∧
    (Spec.C03 (ctx st.proc st.prog tbl true)).ok = true ∧ (Spec.C04 (ctx st.proc st.prog tbl true)).ok = true ∧
    (Spec.C05 (ctx st.proc st.prog tbl true)).ok = true := by
  obtain ⟨hf, hsim⟩ := Pipeline.run_ok hrun
  refine ⟨?_, pipeline_diagram_struct desc rawIsa lines st hf tbl true (.inr ⟨rfl, hsim⟩)⟩
  unfold Pipeline.cliTable
  rw [hrun]

/-- the pipeline never ends with a simulator fault (given `readNotAfterWrite`): it fails in a front stage, prints a
table, or raises the stall error -/
theorem C16_pipeline_no_fault (desc : Loader.Desc Pipeline.Str) (rawIsa : List (Pipeline.Str × Pipeline.Str))
    (lines : List Pipeline.Str) (st : Pipeline.Stages) (o : Outcome Pipeline.Str)
    (hrun : Pipeline.run desc rawIsa lines = .ok (st, o)) (hrw : readNotAfterWrite st.proc = true) :
    ∃ tbl, o = .done tbl ∨ o = .stall tbl := by
  obtain ⟨hf, hsim⟩ := Pipeline.run_ok hrun
  have := C08_no_fault_loaded Loader.StrictTotal.listChar ICase.lower ((Pipeline.front_ok hf).1) hrw
    st.prog (front_progOK desc rawIsa lines st hf)
  rw [hsim] at this
  exact this

/-! ## Non-vacuity: the pipeline of `C16bExamples` -/
namespace C16cExamples
open C16bExamples

example : runChecks (Pipeline.run desc rawIsa lines) = true := table_and_checks.2

def rnaw : Except Pipeline.Failure (Pipeline.Stages × Outcome Pipeline.Str) → Bool
  | .ok (st, .done _) => readNotAfterWrite st.proc
  | _ => false

theorem rnaw_of_runChecks {r : Except Pipeline.Failure (Pipeline.Stages × Outcome Pipeline.Str)}
    (h : runChecks r = true) : rnaw r = true := by
  unfold runChecks at h
  unfold rnaw
  split
  · simp only [Bool.and_eq_true] at h
    exact h.1.1.1
  · simp_all

example : ∃ st tbl t, Pipeline.run desc rawIsa lines = .ok (st, .done tbl) ∧
    Pipeline.cliTable desc rawIsa lines = some t ∧ C16_Holds String.ofList tbl st.prog.length t ∧
    (simClauses (ctx st.proc st.prog tbl false)).all (fun x => x.2.ok) = true := by
  have hd := rnaw_of_runChecks table_and_checks.2
  cases h : Pipeline.run desc rawIsa lines with
  | error e => rw [h] at hd; cases hd
  | ok r =>
    obtain ⟨st, o⟩ := r
    cases o with
    | done tbl =>
      rw [h] at hd
      obtain ⟨⟨t, h1, h2⟩, c1, c2, c3, c4, c5, c6, c7, c8⟩ := C16_table_inherits desc rawIsa lines st tbl h hd
      refine ⟨st, tbl, t, rfl, h1, h2, ?_⟩
      simp [simClauses, c1, c2, c3, c4, c5, c6, c7, c8]
    | stall tbl => rw [h] at hd; cases hd
    | fault f => rw [h] at hd; cases hd

end C16cExamples

end ProcSim
