import ProcSim.Lemmas.Recase
import ProcSim.Props.C10
import ProcSim.Props.C15
/-!
# C13 — names are case-insensitive and reported in the spelling of their first definition

"Unit names, capability names, instruction mnemonics and register names are matched case-insensitively everywhere
and reported in the spelling of their first definition. Changing only the letter case of any later reference (in
connections, other units' capability lists, memory-access lists, instruction-set capability values, program
mnemonics or register operands) leaves the loaded processor, the instruction set, the compiled program and the
simulation diagram unchanged."

"Changing only the letter case of a non-defining occurrence" is read by `DescRecased`, `IsaRecased`, `ProgRecased`,
over the case folding `fold` (`ICase.lower` in the composed pipeline). Their core is `RecasedFrom fold seen l l'`: same
length, pointwise equal folded forms, and every **defining** occurrence — the first of its folded form: none in
`seen`, none earlier in `l` — **unchanged**. Capability occurrences are taken in description order across all units,
operand occurrences in program order across all lines; unit names are defining; connections and memory-access
entries never are. A memory-access entry naming a capability **no unit declares** is not a reference to anything and
must stay as it is: such a description is outside the loader's domain (Python raises `AssertionError` in
`_get_acl_cap`, the model keeps the raw text). Mnemonics may be re-cased as well (they are reported upper-cased).
Programs are written programs (`SrcInstr`) rendered with the same whitespace choices (the C14 spec).

Loader, instruction set, parser, compiler and the composed pipeline each give the same result or the same kind of
error, and every name of a loaded processor is the first spelling (`IsFirstIn`) of its folded form in the description.
The only hypotheses beyond the relations are, for program texts, the domain of the C14 rendering (`instrOK` for the
original list, `wsOK`, blank tail); well-formedness of the re-cased list is derived.
-/
namespace ProcSim
open Loader hiding Forall2
open Spec.Text (Forall2 SrcInstr LineWs renderProgram instrOK wsOK blankB)
open Recase
open ICase (lower upper)

section Relations
variable {N : Type}

/-- a memory-access entry and its re-casing: equal up to case; an entry that names a capability no unit of `d`
declares (outside the loader's domain) is unchanged -/
abbrev AclRecased (fold : N → N) (d : Desc N) (c c' : N) : Prop :=
  SameFold fold c c' ∧ ((∀ x ∈ d.units.flatMap (·.caps), fold x ≠ fold c) → c = c')

/-- `d'` is `d` with some **non-defining** name occurrences re-cased -/
structure DescRecased (fold : N → N) (d d' : Desc N) : Prop where
  /-- unit by unit: same name, width, locks, number of capabilities; memory-access lists pointwise re-cased -/
  units : Forall2 (fun u u' => u.name = u'.name ∧ u.width = u'.width ∧ u.rd = u'.rd ∧ u.wr = u'.wr ∧
    u.caps.length = u'.caps.length ∧ Forall2 (AclRecased fold d) u.acl u'.acl) d.units d'.units
  /-- all capability occurrences, in description order: same folded forms, first occurrences unchanged -/
  caps : RecasedFrom fold [] (d.units.flatMap (·.caps)) (d'.units.flatMap (·.caps))
  /-- connections: same shape, unit names equal up to case -/
  edges : Forall2 (Forall2 (SameFold fold)) d.edges d'.edges

/-- instruction sets: entry by entry, mnemonic and capability value equal up to case -/
abbrev IsaRecased (isa isa' : List (List Char × List Char)) : Prop := Forall2 IsaEntrySame isa isa'

/-- written programs: mnemonics equal up to case, same numbers of operands; all operand occurrences in program
order: same folded forms, first occurrences unchanged -/
structure ProgRecased (is is' : List SrcInstr) : Prop where
  shape : Forall2 (fun i j => lower i.name = lower j.name ∧ i.ops.length = j.ops.length) is is'
  ops : RecasedFrom lower [] (is.flatMap (·.ops)) (is'.flatMap (·.ops))

instance [DecidableEq N] (fold : N → N) (d d' : Desc N) : Decidable (DescRecased fold d d') :=
  decidable_of_iff
    (Forall2 (fun u u' => u.name = u'.name ∧ u.width = u'.width ∧ u.rd = u'.rd ∧ u.wr = u'.wr ∧
        u.caps.length = u'.caps.length ∧ Forall2 (AclRecased fold d) u.acl u'.acl) d.units d'.units ∧
      RecasedFrom fold [] (d.units.flatMap (·.caps)) (d'.units.flatMap (·.caps)) ∧
      Forall2 (Forall2 (SameFold fold)) d.edges d'.edges)
    ⟨fun ⟨a, b, c⟩ => ⟨a, b, c⟩, fun ⟨a, b, c⟩ => ⟨a, b, c⟩⟩

instance (is is' : List SrcInstr) : Decidable (ProgRecased is is') :=
  decidable_of_iff
    (Forall2 (fun i j => lower i.name = lower j.name ∧ i.ops.length = j.ops.length) is is' ∧
      RecasedFrom lower [] (is.flatMap (·.ops)) (is'.flatMap (·.ops)))
    ⟨fun ⟨a, b⟩ => ⟨a, b⟩, fun ⟨a, b⟩ => ⟨a, b⟩⟩

/-- `c` is the first spelling of its folded form among the occurrences `T` (read in order): it occurs in `T` and
no earlier occurrence has the same folded form -/
def IsFirstIn [DecidableEq N] (fold : N → N) (T : List N) (c : N) : Prop := lookupFold fold T c = some c

theorem C13_isFirstIn_iff [DecidableEq N] (fold : N → N) (T : List N) (c : N) :
    IsFirstIn fold T c ↔ ∃ l₁ l₂, T = l₁ ++ c :: l₂ ∧ ∀ x ∈ l₁, fold x ≠ fold c := by
  unfold IsFirstIn lookupFold
  rw [List.find?_eq_some_iff_append]
  simp only [decide_true, true_and, Bool.not_eq_true', decide_eq_false_iff_not, ne_eq]

section FirstSpelling
variable [DecidableEq N] (fold : N → N)

private theorem lookupFold_idem {T : List N} {x s : N} (h : lookupFold fold T x = some s) : IsFirstIn fold T s := by
  have := (lookupFold_some fold h).2
  unfold IsFirstIn
  rw [lookupFold_congr fold this, h]

private theorem isFirstIn_stdCap (T : List N) (c : N) :
    IsFirstIn fold T (stdCap fold T c) ∨ (stdCap fold T c = c ∧ ∀ x ∈ T, fold x ≠ fold c) := by
  unfold stdCap
  cases hl : lookupFold fold T c with
  | some s => exact .inl (lookupFold_idem fold hl)
  | none => exact .inr ⟨rfl, (lookupFold_eq_none fold).1 hl⟩

private theorem isFirstIn_of_pairwise : ∀ {T : List N}, T.Pairwise (fun a b => fold a ≠ fold b) →
    ∀ x ∈ T, IsFirstIn fold T x
  | a :: T, hT, x, hx => by
    have hp := List.pairwise_cons.1 hT
    unfold IsFirstIn
    rw [lookupFold_cons]
    rcases List.mem_cons.1 hx with rfl | hx
    · rw [if_pos rfl]
    · rw [if_neg (hp.1 x hx)]
      exact isFirstIn_of_pairwise hp.2 x hx

private theorem connections_left {d : Desc N} {a b : N} (h : (a, b) ∈ Spec.connections fold d) :
    ∃ a0, lookupFold fold (d.units.map (·.name)) a0 = some a := by
  simp only [Spec.connections, List.mem_filterMap] at h
  obtain ⟨e, -, hm⟩ := h
  split at hm
  next a0 b0 =>
    split at hm
    next a' b' ha' hb' =>
      simp only [Option.some.injEq, Prod.mk.injEq] at hm
      exact ⟨a0, hm.1 ▸ ha'⟩
    · cases hm
  · cases hm

end FirstSpelling

end Relations

section LoaderThms
variable {N : Type} [DecidableEq N] [LT N] [DecidableRel (α := N) (· < ·)] (fold : N → N)

theorem C13_recase_load_rel {d d' : Desc N} (h : DescRecased fold d d') :
    ExRel (ErrSame fold) (load fold d) (load fold d') :=
  load_recase_core fold (AclRecased fold d) (unitsRel_of_flat fold _ [] d.units d'.units h.units h.caps)
    (fun _ _ h => h) h.edges

/-- **C13, loader.** Re-casing non-defining occurrences of names in a description does not change the loaded
processor; a rejected description stays rejected with the same exception, the names it carries equal up to case
(`mapErr fold` folds every name an exception carries; the raw payloads may legitimately differ in letter case,
e.g. `UndefElemError.element` is the text as written). -/
theorem C13_recase_load {d d' : Desc N} (h : DescRecased fold d d') :
    (load fold d).mapError (mapErr fold) = (load fold d').mapError (mapErr fold) :=
  (C13_recase_load_rel fold h).mapError_eq (fun _ _ h => h)

/-- C13, loader: the same exception class -/
theorem C13_recase_load_cls {d d' : Desc N} (h : DescRecased fold d d') :
    (load fold d).mapError LoadError.cls = (load fold d').mapError LoadError.cls :=
  (C13_recase_load_rel fold h).mapError_eq (fun _ _ h => h.cls_eq)

/-- C13, loader: the same loaded processor, and acceptance itself is unchanged -/
theorem C13_recase_load_ok {d d' : Desc N} (h : DescRecased fold d d') :
    (load fold d).toOption = (load fold d').toOption ∧ (load fold d).isOk = (load fold d').isOk :=
  ⟨(C13_recase_load_rel fold h).toOption_eq, (C13_recase_load_rel fold h).isOk_eq⟩

/-- equal processors offer equal capabilities, so the loader's and the instruction set's statements compose -/
theorem C13_recase_abilities {p p' : Proc (List Char)} (h : p = p') :
    Isa.getAbilitiesProc p = Isa.getAbilitiesProc p' := by rw [h]

/-- **C13, first spellings.** In a loaded processor every unit name is the first spelling of its folded form
among the unit names of the description; every capability of every unit is the first spelling of its folded form
among all capability occurrences of the description (in description order); every memory-access entry is such a
first spelling too (or names a capability no unit declares — outside the loader's domain); every predecessor name
is the first spelling among the unit names. -/
theorem C13_first_spelling_load {d : Desc N} {p : Proc N} (h : load fold d = .ok p) :
    (∀ m ∈ p.allUnits,
      IsFirstIn fold (d.units.map (·.name)) m.name ∧
      (∀ c ∈ m.caps, IsFirstIn fold (d.units.flatMap (·.caps)) c) ∧
      (∀ a ∈ m.acl, IsFirstIn fold (d.units.flatMap (·.caps)) a ∨ ∀ x ∈ d.units.flatMap (·.caps), fold x ≠ fold a)) ∧
    (∀ f ∈ p.outPorts ++ p.internal, ∀ a ∈ f.preds, IsFirstIn fold (d.units.map (·.name)) a) := by
  -- every name of `p` is the standard spelling (C10) of a name of `d`; standard spellings are first spellings
  have hstd : ∀ c0, Spec.stdCapName fold d c0 = stdCap fold (d.units.flatMap (·.caps)) c0 := fun _ => rfl
  obtain ⟨g0, reg, g2, hc, -, -⟩ := load_ok fold h
  have hname : ∀ x ∈ d.units.map (·.name), IsFirstIn fold (d.units.map (·.name)) x :=
    isFirstIn_of_pairwise fold (createGraph_names fold hc ▸ createGraph_names_foldDistinct fold hc)
  refine ⟨fun m hm => ⟨?_, ?_, ?_⟩, ?_⟩
  · obtain ⟨x, hx, hxn, -⟩ := C10_retained fold h m hm
    obtain ⟨u, hu, rfl⟩ := List.mem_map.1 hx
    exact hxn ▸ hname u.name (List.mem_map_of_mem (f := fun x : UnitD N => x.name) hu)
  · intro c hcm
    -- `c` is kept, so `m` declares it: it is the standard spelling of a capability `c0` that a unit of `d` lists
    obtain ⟨r, -, hdecl, -, hlast⟩ := ((C10_caps fold h m hm).2 c).1 hcm
    have hd := hdecl m.name (List.mem_of_getLast? hlast)
    simp only [Spec.DG.declares, List.any_eq_true, Bool.and_eq_true, decide_eq_true_eq] at hd
    obtain ⟨x, hx, -, hcx⟩ := hd
    obtain ⟨u, hu, rfl⟩ := List.mem_map.1 hx
    obtain ⟨c0, hc0, rfl⟩ := List.mem_map.1 (ISort.mem_dedup.1 hcx)
    rw [hstd]
    exact (isFirstIn_stdCap fold _ c0).resolve_right
      (fun hno => hno.2 c0 (List.mem_flatMap.2 ⟨u, hu, hc0⟩) rfl)
  · intro a ha
    obtain ⟨x, hx, -, -, -, -, hperm⟩ := C10_retained fold h m hm
    obtain ⟨u, hu, rfl⟩ := List.mem_map.1 hx
    obtain ⟨a0, ha0, rfl⟩ := List.mem_map.1 (hperm.mem_iff.2 ha)
    rw [hstd]
    rcases isFirstIn_stdCap fold (d.units.flatMap (·.caps)) a0 with hfirst | ⟨hself, hno⟩
    · exact .inl hfirst
    · exact .inr (hself.symm ▸ hno)
  · intro f hf a ha
    have he : Spec.edgeB p a f.model.name = true := (Loader.edgeB_iff p a f.model.name).2 ⟨f, hf, rfl, ha⟩
    have hkept : (Spec.dgOf fold d).KeptConn a f.model.name := (((C10_preds fold h).1 a f.model.name).1 he).1
    obtain ⟨a0, ha0⟩ := connections_left fold (of_decide_eq_true hkept.1)
    exact lookupFold_idem fold ha0

end LoaderThms

/-- **C13, instruction sets.** Re-casing the capability values (and/or the mnemonics) of an instruction set
does not change the loaded instruction set; a rejected one is rejected with the same error constructor, the texts it
carries equal up to case. -/
theorem C13_recase_isa {isa isa' : List (List Char × List Char)} (caps : List (List Char))
    (h : IsaRecased isa isa') : ExRel IsaErrSame (Isa.loadIsa isa caps) (Isa.loadIsa isa' caps) :=
  createIsa_recase _ isa isa' [] [] [] h (fun _ => trivial)

/-- C13, instruction sets: accepted ones are equal, and acceptance itself is unchanged -/
theorem C13_recase_isa_ok {isa isa' : List (List Char × List Char)} (caps : List (List Char))
    (h : IsaRecased isa isa') :
    (Isa.loadIsa isa caps).toOption = (Isa.loadIsa isa' caps).toOption ∧
      (Isa.loadIsa isa caps).isOk = (Isa.loadIsa isa' caps).isOk :=
  ⟨(C13_recase_isa caps h).toOption_eq, (C13_recase_isa caps h).isOk_eq⟩

/-- reported spelling: every mnemonic is stored upper-cased with a capability *in the processor's spelling*
(an element of the offered set `caps`) that equals the written value up to case (from C15) -/
theorem C13_isa_spelling {isa : List (List Char × List Char)} {caps : List (List Char)} {m : AMap (List Char) (List Char)}
    (h : Isa.loadIsa isa caps = .ok m) :
    ∀ e ∈ isa, ∃ std, AMap.get? m (upper e.1) = some std ∧ std ∈ caps ∧ lower std = lower e.2 := by
  have := C15_isa_load isa caps
  unfold Spec.Text.modelIsaObs at this
  rw [h] at this
  exact this.2.2.2.1

/-- **C13, programs.** The texts of a written program and of its re-casing (same whitespace) parse to
instruction lists of the same length that agree pointwise in sources, destination, line number and mnemonic up to
case (`ProgSame`) — registers are reported in the spelling of their first occurrence, so a re-cased later reference
is the same register; a syntax error is the same error at the same line and operand position. -/
theorem C13_recase_program {is is' : List SrcInstr} (ws : List LineWs) (tail : List (List Char))
    (h : ProgRecased is is') (his : ∀ i ∈ is, instrOK i = true) (hws : ∀ w ∈ ws, wsOK w = true)
    (htail : ∀ l ∈ tail, blankB l = true) :
    ExRel2 ParseErrSame (Forall2 ProgSame) (Program.readProgram (renderProgram is ws tail))
      (Program.readProgram (renderProgram is' ws tail)) := by
  have hrel := progRel_of_flat [] is is' h.shape h.ops
  have his' := progRel_instrOK hrel his
  rw [ProgramLemmas.readProgram_render is ws tail his hws htail,
    ProgramLemmas.readProgram_render is' ws tail his' hws htail]
  unfold Spec.Text.expected
  exact (expectedFrom_recase is is' ws [] [] 1 hrel (fun _ => rfl)).cases (fun _ _ h => h)
    (fun _ _ h => forall2_toProg h)

/-- `ProgSame` spelled out with the key `compile_program` uses (`name.upper()`) -/
theorem C13_progSame_iff (p p' : Program.ProgInstr) :
    ProgSame p p' ↔ upper p.name = upper p'.name ∧ p.srcs = p'.srcs ∧ p.dst = p'.dst ∧ p.line = p'.line := by
  unfold ProgSame
  rw [IsaLemmas.upper_eq_iff_lower_eq]

/-- **C13, compiling.** Programs that agree but for the letter case of their mnemonics compile to the same
hardware program, or fail at the same line on the same mnemonic (up to case). -/
theorem C13_recase_compile (isa : AMap (List Char) (List Char)) {ps ps' : List Program.ProgInstr}
    (h : Forall2 ProgSame ps ps') : ExRel CompErrSame (Isa.compileProgram isa ps) (Isa.compileProgram isa ps') :=
  compileProgram_recase isa ps ps' h

/-- **C13, the property's sentence.** For a description, an instruction set and a program text and re-casings of
their non-defining name occurrences, the pipeline yields the same loaded processor, the same instruction set, the
same compiled program (`StagesSame`; the parsed instructions agree but for the case of the raw mnemonic) and the
same simulation outcome — the same diagram, the same stall state, or the same fault (`RunSame`); if a stage fails,
the same stage fails with the same kind of error (`FailSame`). -/
theorem C13_recase_pipeline {d d' : Desc (List Char)} {isa isa' : List (List Char × List Char)}
    {is is' : List SrcInstr} (ws : List LineWs) (tail : List (List Char))
    (hd : DescRecased lower d d') (hi : IsaRecased isa isa') (hp : ProgRecased is is')
    (his : ∀ i ∈ is, instrOK i = true) (hws : ∀ w ∈ ws, wsOK w = true) (htail : ∀ l ∈ tail, blankB l = true) :
    ExRel2 FailSame RunSame (Pipeline.run d isa (renderProgram is ws tail))
      (Pipeline.run d' isa' (renderProgram is' ws tail)) :=
  run_recase (front_recase (C13_recase_load_rel lower hd) (fun caps => C13_recase_isa caps hi)
    (C13_recase_program ws tail hp his hws htail))

/-- C13: the command line prints the same table -/
theorem C13_recase_cli {d d' : Desc (List Char)} {isa isa' : List (List Char × List Char)}
    {is is' : List SrcInstr} (ws : List LineWs) (tail : List (List Char))
    (hd : DescRecased lower d d') (hi : IsaRecased isa isa') (hp : ProgRecased is is')
    (his : ∀ i ∈ is, instrOK i = true) (hws : ∀ w ∈ ws, wsOK w = true) (htail : ∀ l ∈ tail, blankB l = true) :
    Pipeline.cliTable d isa (renderProgram is ws tail) = Pipeline.cliTable d' isa' (renderProgram is' ws tail) :=
  cliTable_recase (C13_recase_pipeline ws tail hd hi hp his hws htail)

/-! ## non-vacuity (`decide`-checked)

```
units:  In  (width 1, read lock)  capabilities ALU, Mem              -- defining occurrences
        Out (width 1, write lock) capabilities alu, MEM   memory access: mem
dataPath: IN → out
ISA:    add ↦ alu,  LD ↦ MEM
program:    ADD R1, R2, R3
            <empty line>
            ld r4 , r1
             add R5, r4, R1
```
and the re-casing `Alu`, `mem` / memory access `MEM` / `in → OUT` / `Add ↦ ALU`, `LD ↦ mem` /
`add R1, R2, R3`, `LD r4 , R1`, ` Add R5, R4, r1`.
-/
section NonVacuity

private def sALU : List Char := ['A', 'L', 'U']
private def salu : List Char := ['a', 'l', 'u']
private def sAlu : List Char := ['A', 'l', 'u']
private def sMem : List Char := ['M', 'e', 'm']
private def sMEM : List Char := ['M', 'E', 'M']
private def smem : List Char := ['m', 'e', 'm']
private def sIn : List Char := ['I', 'n']
private def sIN : List Char := ['I', 'N']
private def sin : List Char := ['i', 'n']
private def sOut : List Char := ['O', 'u', 't']
private def sOUT : List Char := ['O', 'U', 'T']
private def sout : List Char := ['o', 'u', 't']
private def sadd : List Char := ['a', 'd', 'd']
private def sADD : List Char := ['A', 'D', 'D']
private def sAdd : List Char := ['A', 'd', 'd']
private def sld : List Char := ['l', 'd']
private def sLD : List Char := ['L', 'D']
private def sR1 : List Char := ['R', '1']
private def sr1 : List Char := ['r', '1']
private def sR2 : List Char := ['R', '2']
private def sR3 : List Char := ['R', '3']
private def sr4 : List Char := ['r', '4']
private def sR4 : List Char := ['R', '4']
private def sR5 : List Char := ['R', '5']

private def exD : Desc (List Char) :=
  { units := [⟨sIn, 1, [sALU, sMem], true, false, []⟩, ⟨sOut, 1, [salu, sMEM], false, true, [smem]⟩],
    edges := [[sIN, sout]] }
private def exD' : Desc (List Char) :=
  { units := [⟨sIn, 1, [sALU, sMem], true, false, []⟩, ⟨sOut, 1, [sAlu, smem], false, true, [sMEM]⟩],
    edges := [[sin, sOUT]] }
private def exIsa : List (List Char × List Char) := [(sadd, salu), (sLD, sMEM)]
private def exIsa' : List (List Char × List Char) := [(sAdd, sALU), (sLD, smem)]
private def exP : List SrcInstr := [⟨sADD, [sR1, sR2, sR3]⟩, ⟨sld, [sr4, sr1]⟩, ⟨sadd, [sR5, sr4, sR1]⟩]
private def exP' : List SrcInstr := [⟨sadd, [sR1, sR2, sR3]⟩, ⟨sLD, [sr4, sR1]⟩, ⟨sAdd, [sR5, sR4, sr1]⟩]
private def exWs : List LineWs := [{}, { blanks := [[]], commas := [([' '], [' '])] }, { pre := [' '] }]

private theorem exRelated : DescRecased lower exD exD' ∧ IsaRecased exIsa exIsa' ∧ ProgRecased exP exP' ∧
    (∀ i ∈ exP, instrOK i = true) ∧ (∀ w ∈ exWs, wsOK w = true) := by decide +kernel

example : DescRecased lower exD exD' ∧ IsaRecased exIsa exIsa' ∧ ProgRecased exP exP' ∧
    (∀ i ∈ exP, instrOK i = true) ∧ (∀ w ∈ exWs, wsOK w = true) := exRelated

/-- `a = b` through the common value `c`, so that each side is evaluated once -/
private theorem eq_and_eq {α : Type} {a b c : α} (h : a = c) (h' : b = c) : a = b ∧ a = c := ⟨h.trans h'.symm, h⟩

/-- the loaded processor is the same, with every name in the spelling of its first definition -/
example : (load lower exD).toOption = (load lower exD').toOption ∧
    (load lower exD).toOption = some
      { inPorts := [⟨sIn, 1, [sALU, sMem], true, false, []⟩],
        outPorts := [⟨⟨sOut, 1, [sALU, sMem], false, true, [sMem]⟩, [sIn]⟩],
        inOut := [], internal := [] } := eq_and_eq (by decide +kernel) (by decide +kernel)

private structure View where
  proc : Proc (List Char)
  isa : AMap (List Char) (List Char)
  prog : List (Instr (List Char))
  diagram : List (Util (List Char))
deriving DecidableEq

private def view (r : Except Pipeline.Failure (Pipeline.Stages × Outcome (List Char))) : Option View :=
  match r with
  | .ok (st, .done tbl) => some ⟨st.proc, st.isa, st.prog, tbl⟩
  | _ => none

/-- the model outputs are identical: processor, instruction set (upper-cased mnemonics, the processor's spellings
`ALU`, `Mem`), compiled program (registers in first spelling `R1`, `r4`) and the diagram (the re-cased `r1`/`R4` are
the same registers: instructions 2 and 3 wait on data hazards, `D`) -/
example : view (Pipeline.run exD exIsa (renderProgram exP exWs [])) =
      view (Pipeline.run exD' exIsa' (renderProgram exP' exWs [])) ∧
    view (Pipeline.run exD exIsa (renderProgram exP exWs [])) = some
      { proc := { inPorts := [⟨sIn, 1, [sALU, sMem], true, false, []⟩],
                  outPorts := [⟨⟨sOut, 1, [sALU, sMem], false, true, [sMem]⟩, [sIn]⟩], inOut := [], internal := [] },
        isa := [(sADD, sALU), (sLD, sMem)],
        prog := [⟨[sR2, sR3], sR1, sALU⟩, ⟨[sR1], sr4, sMem⟩, ⟨[sR1, sr4], sR5, sALU⟩],
        diagram := [[(sOut, []), (sIn, [⟨0, .U⟩])], [(sOut, [⟨0, .U⟩]), (sIn, [⟨1, .D⟩])],
                    [(sOut, []), (sIn, [⟨1, .U⟩])], [(sOut, [⟨1, .U⟩]), (sIn, [⟨2, .D⟩])],
                    [(sOut, []), (sIn, [⟨2, .U⟩])], [(sOut, [⟨2, .U⟩]), (sIn, [])]] } :=
  eq_and_eq (by decide +kernel) (by decide +kernel)

section
-- `ExRel2` stays folded here: to unfold it at the two closed runs the elaborator would evaluate both pipelines
attribute [local irreducible] ExRel2

example : ExRel2 FailSame RunSame (Pipeline.run exD exIsa (renderProgram exP exWs []))
    (Pipeline.run exD' exIsa' (renderProgram exP' exWs [])) :=
  C13_recase_pipeline exWs [] exRelated.1 exRelated.2.1 exRelated.2.2.1 exRelated.2.2.2.1 exRelated.2.2.2.2 (by decide +kernel)
end

example : Pipeline.cliTable exD exIsa (renderProgram exP exWs []) =
    Pipeline.cliTable exD' exIsa' (renderProgram exP' exWs []) :=
  C13_recase_cli exWs [] exRelated.1 exRelated.2.1 exRelated.2.2.1 exRelated.2.2.2.1 exRelated.2.2.2.2 (by decide +kernel)

/-- **the side condition is necessary**: re-casing a *defining* occurrence (the first `ALU`, in unit `In`) is not
allowed by the relation — and it does change the reported spelling (`alu` everywhere) -/
private def exDdef : Desc (List Char) :=
  { units := [⟨sIn, 1, [salu, sMem], true, false, []⟩, ⟨sOut, 1, [salu, sMEM], false, true, [smem]⟩],
    edges := [[sIN, sout]] }
example : ¬ DescRecased lower exD exDdef ∧ (load lower exD).toOption ≠ (load lower exDdef).toOption ∧
    (load lower exDdef).toOption = some
      { inPorts := [⟨sIn, 1, [sMem, salu], true, false, []⟩],
        outPorts := [⟨⟨sOut, 1, [sMem, salu], false, true, [sMem]⟩, [sIn]⟩],
        inOut := [], internal := [] } := by decide +kernel

/-- likewise for registers: re-casing the first occurrence of `R1` changes the compiled program -/
private def exPdef : List SrcInstr := [⟨sADD, [sr1, sR2, sR3]⟩, ⟨sld, [sr4, sr1]⟩, ⟨sadd, [sR5, sr4, sR1]⟩]
example : ¬ ProgRecased exP exPdef ∧
    (view (Pipeline.run exD exIsa (renderProgram exPdef exWs []))).map (·.prog) =
      some [⟨[sR2, sR3], sr1, sALU⟩, ⟨[sr1], sr4, sMem⟩, ⟨[sr1, sr4], sR5, sALU⟩] := by decide +kernel

/-- a unit name is a defining occurrence: re-casing it is not allowed and changes the reported name -/
private def exDname : Desc (List Char) :=
  { units := [⟨sIN, 1, [sALU, sMem], true, false, []⟩, ⟨sOut, 1, [salu, sMEM], false, true, [smem]⟩],
    edges := [[sIN, sout]] }
example : ¬ DescRecased lower exD exDname ∧ (load lower exD).toOption ≠ (load lower exDname).toOption := by decide +kernel

/-- rejected descriptions: the same class, the raw payload may differ in letter case (`UndefElemError.element`) -/
example : load lower { exD with edges := [[sIN, sALU]] } = .error (.undefElem sALU) ∧
    load lower { exD' with edges := [[sin, salu]] } = .error (.undefElem salu) ∧
    DescRecased lower { exD with edges := [[sIN, sALU]] } { exD' with edges := [[sin, salu]] } := by
  refine ⟨rfl, rfl, by decide +kernel⟩

/-- first spellings in the loaded processor (`C13_first_spelling_load` applied) -/
example : ∀ p, load lower exD = .ok p → ∀ m ∈ p.allUnits, ∀ c ∈ m.caps,
    IsFirstIn lower (exD.units.flatMap (·.caps)) c := fun _ h m hm => ((C13_first_spelling_load lower h).1 m hm).2.1

end NonVacuity

end ProcSim
