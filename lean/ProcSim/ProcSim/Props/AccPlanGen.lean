import ProcSim.Gen.AccPlan
import ProcSim.Props.C19gen
import ProcSim.Model.Sim
import ProcSim.Lemmas.AccessPlan
/-!
# Translator tie for the register access plan (`_build_acc_plan` and its helpers in `src/sim_services/__init__.py`)

`ProcSim.Gen.acc_plan` is **generated** from the Python source on every check run (four functions: `_add_rd_access`,
`_add_wr_access`, `_add_access`, `_build_acc_plan`; they call the generated `RegAccQBuilder` of `reg_access.py`).
This file proves that they build exactly the model's plan (`addReads`, `addInstr`, `buildPlanFrom`, `buildPlan` of
`ProcSim/Model/Sim.lean`): one queue per register, registers in first-use order, per instruction the reads of all its
sources and then the write of its destination — the mechanism C01 and C02 rest on.
-/
namespace ProcSim.GenTie
open PyLite ProcSim ProcSim.Gen.reg_access ProcSim.Gen.acc_plan

variable {N : Type} [DecidableEq N]

/-- the `defaultdict(RegAccQBuilder)` of builders standing for the model's register ↦ queue map -/
def encD (qs : Queues N) : PyDict N RegAccQBuilder := ⟨List.map (fun kv => (kv.1, encB kv.2)) qs, some RegAccQBuilder.new⟩
/-- the returned plan: a plain dict of queues -/
def encPlan (qs : Queues N) : PyDict N RegAccessQueue := ⟨List.map (fun kv => (kv.1, encQ kv.2)) qs, none⟩
/-- the instruction as the plan builder sees it -/
def encI (ins : Instr N) : HwInstruction N := ⟨ins.srcs, ins.dst⟩

/-- the member list of the dict: same keys in the same order, each queue as a builder -/
def encItems (qs : Queues N) : List (N × RegAccQBuilder) := List.map (fun kv => (kv.1, encB kv.2)) qs
/-- a new register at the end of the map (what `defaultdict.__getitem__` does for a missing key) -/
def snoc (qs : Queues N) (r : N) (q : Queue) : Queues N := List.append qs [(r, q)]

theorem encItems_snoc (qs : Queues N) (r : N) (q : Queue) : encItems (snoc qs r q) = encItems qs ++ [(r, encB q)] := by
  unfold encItems snoc
  exact List.map_append

/-- Python's dict lookup and item replacement are `AMap.get?` / `AMap.set`, through any encoding `f` of the values -/
theorem lookup_mapVals {V W : Type} (f : V → W) (m : AMap N V) (r : N) :
    PyDict.lookup (List.map (fun kv => (kv.1, f kv.2)) m) r = (AMap.get? m r).map f := by
  induction m with
  | nil => rfl
  | cons kv t ih =>
    obtain ⟨k, q⟩ := kv
    by_cases h : k = r <;> simp [PyDict.lookup, AMap.get?, h, ih]

theorem replace_mapVals {V W : Type} (f : V → W) (m : AMap N V) (r : N) (v : V) :
    PyDict.replace (List.map (fun kv => (kv.1, f kv.2)) m) r (f v) =
      List.map (fun kv => (kv.1, f kv.2)) (AMap.set m r v) := by
  induction m with
  | nil => rfl
  | cons kv t ih =>
    obtain ⟨k, q0⟩ := kv
    by_cases h : k = r
    · simp [PyDict.replace, AMap.set, h]
    · simp [PyDict.replace, AMap.set, h, ih]
      rfl

theorem lookup_enc (qs : Queues N) (r : N) : PyDict.lookup (encItems qs) r = (AMap.get? qs r).map encB :=
  lookup_mapVals encB qs r

theorem replace_enc (qs : Queues N) (r : N) (q : Queue) :
    PyDict.replace (encItems qs) r (encB q) = encItems (AMap.set qs r q) :=
  replace_mapVals encB qs r q

theorem set_snoc_of_absent (qs : Queues N) (r : N) (q0 q : Queue) (h : AMap.get? qs r = none) :
    AMap.set (snoc qs r q0) r q = AMap.set qs r q := by
  unfold snoc
  induction qs with
  | nil => simp [AMap.set]; rfl
  | cons kv t ih =>
    obtain ⟨k, q1⟩ := kv
    by_cases hk : k = r
    · simp [AMap.get?, hk] at h
    · have ht : AMap.get? t r = none := by simpa [AMap.get?, hk] using h
      have := ih ht
      simp only [List.append_eq] at this ⊢
      simp [AMap.set, hk, this]
      rfl

/-- the pattern every mutation of `builders[r]` compiles to: read `builders[r]` (inserting an empty builder for a new
register), run a builder-mutating call, write the builder back — is the model's `set r (h (get r))` -/
theorem modify_builder (qs : Queues N) (r : N) (g : RegAccQBuilder → PyM (Unit × RegAccQBuilder)) (h : Queue → Queue)
    (hg : ∀ q, g (encB q) = .ok ((), encB (h q))) :
    (do let (v1, d1) ← PyDict.getItem (encD qs) r
        let v1' := (← g v1).2
        pure (PyDict.setItem d1 r v1')) = (.ok (encD (qs.set r (h (qs.get r)))) : PyM _) := by
  have hD : ∀ qs : Queues N, encD qs = ⟨encItems qs, some RegAccQBuilder.new⟩ := fun _ => rfl
  simp only [PyDict.getItem, hD, lookup_enc]
  cases hr : AMap.get? qs r with
  | some q =>
    simp only [Option.map_some, bind, Except.bind, hg, pure, Except.pure, PyDict.setItem, replace_enc, Queues.set,
      Queues.get, hr, Option.getD_some]
  | none =>
    simp only [Option.map_none, gen_new, bind, Except.bind, pure, Except.pure, ← encItems_snoc, hg, PyDict.setItem,
      replace_enc, Queues.set, Queues.get, hr, Option.getD_none, set_snoc_of_absent qs r [] _ hr]

/-- `_add_wr_access` (generated) registers the write at the end of the register's plan -/
theorem gen_add_wr_access (q : Queue) (i : Nat) : _add_wr_access i (encB q) = .ok ((), encB (q.push true i)) := by
  have := gen_append q true i
  simp only [encT] at this
  simp [_add_wr_access, this, bind, Except.bind, pure, Except.pure]

theorem pyFor_enc {α σ τ : Type} (enc : τ → σ) (body : α → σ → PyM σ) (g : τ → α → τ)
    (h : ∀ a t, body a (enc t) = .ok (enc (g t a))) (l : List α) (t : τ) :
    pyFor l (enc t) body = .ok (enc (l.foldl g t)) := by
  induction l generalizing t with
  | nil => rfl
  | cons a l ih =>
    simp only [pyFor, h, bind, Except.bind]
    exact ih _

/-- `_add_rd_access` (generated) = the model's `addReads`: one read per source register, in the order given -/
theorem gen_add_rd_access (qs : Queues N) (i : Nat) (rs : List N) :
    _add_rd_access i (encD qs) rs = .ok ((), encD (addReads qs i rs)) := by
  have hfold : ∀ (rs : List N) (qs : Queues N),
      addReads qs i rs = rs.foldl (fun qs r => qs.set r ((qs.get r).push false i)) qs := by
    intro rs
    induction rs with
    | nil => intro qs; rfl
    | cons r t ih => intro qs; exact ih _
  unfold _add_rd_access
  simp only [bind, Except.bind, pure, Except.pure]
  rw [pyFor_enc encD _ (fun qs r => qs.set r ((qs.get r).push false i)) ?_ rs qs, hfold]
  intro r qs
  have := modify_builder qs r (fun b => RegAccQBuilder.append b AccessType.READ i) (fun q => q.push false i)
    (fun q => by have := gen_append q false i; simpa [encT] using this)
  simp only [bind, Except.bind, pure, Except.pure] at this
  rw [this]

/-- `_add_access` (generated) = the model's `addInstr`: the reads of all sources, then the write of the destination -/
theorem gen_add_access (qs : Queues N) (i : Nat) (ins : Instr N) :
    _add_access (encI ins) i (encD qs) = .ok ((), encD (addInstr qs i ins)) := by
  have h2 := modify_builder (addReads qs i ins.srcs) ins.dst (fun b => _add_wr_access i b) (fun q => q.push true i)
    (fun q => gen_add_wr_access q i)
  simp only [bind, Except.bind, pure, Except.pure] at h2
  simp only [_add_access, encI, gen_add_rd_access, bind, Except.bind, pure, Except.pure, addInstr]
  rw [h2]

/-- the program as `enumerate(program)` hands it to `_build_acc_plan`, numbering from `i` -/
def indexed (i : Nat) : List (Instr N) → List (Nat × HwInstruction N)
  | [] => []
  | ins :: rest => (i, encI ins) :: indexed (i + 1) rest

theorem gen_plan_loop (qs : Queues N) (i : Nat) (prog : List (Instr N)) :
    pyFor (indexed i prog) (encD qs) (fun (x : Nat × HwInstruction N) builders => do
      let mut builders := builders
      builders := (← _add_access x.2 x.1 builders).2
      return builders) = .ok (encD (buildPlanFrom qs i prog)) := by
  induction prog generalizing qs i with
  | nil => rfl
  | cons ins rest ih =>
    simp only [indexed, pyFor, buildPlanFrom, gen_add_access, bind, Except.bind, pure, Except.pure]
    exact ih _ _

theorem mapM_create (qs : Queues N) :
    (encItems qs).mapM (fun kv => do pure (kv.1, ← RegAccQBuilder.create kv.2)) =
      (.ok (List.map (fun kv => (kv.1, encQ kv.2)) qs) : PyM _) := by
  induction qs with
  | nil => rfl
  | cons kv t ih =>
    obtain ⟨k, q⟩ := kv
    unfold encItems at ih ⊢
    simp only [List.map_cons, List.mapM_cons, gen_create, bind, Except.bind, pure, Except.pure] at ih ⊢
    rw [ih]

/-- **`_build_acc_plan` (generated) = the model's `buildPlan`**: never raises, one queue per register in first-use order,
each holding the program-order requests of that register (reads of an instruction before its write). -/
theorem gen_build_acc_plan (prog : List (Instr N)) :
    _build_acc_plan (indexed 0 prog) = .ok (encPlan (buildPlan prog)) := by
  have h := gen_plan_loop ([] : Queues N) 0 prog
  have h0 : (PyDict.emptyDefault RegAccQBuilder.new : PyDict N RegAccQBuilder) = encD [] := rfl
  simp only [_build_acc_plan, h0, bind, Except.bind, pure, Except.pure] at h ⊢
  rw [h]
  unfold buildPlan
  have hD : encD (buildPlanFrom [] 0 prog) = ⟨encItems (buildPlanFrom [] 0 prog), some RegAccQBuilder.new⟩ := rfl
  simp only [PyDict.mapValsM, hD, encPlan, bind, Except.bind, pure, Except.pure]
  have := mapM_create (buildPlanFrom [] 0 prog)
  simp only [bind, Except.bind, pure, Except.pure] at this
  rw [this]

/-- **The plan built by the translated code, read at the request level** (the mechanism C01 and C02 rest on): the call
never raises, and whatever queue the returned dict holds for a register is the encoding of a well-formed model queue whose
pending requests are exactly that register's requests in program order (reads of an instruction before its write). -/
theorem C01_gen_plan_requests (prog : List (Instr N)) :
    ∃ d, _build_acc_plan (indexed 0 prog) = .ok d ∧
      ∀ r pq, PyDict.lookup d.items r = some pq →
        ∃ q, pq = encQ q ∧ Spec.abs q = Hazards.reqsOf prog r ∧ Spec.WFq q := by
  refine ⟨encPlan (buildPlan prog), gen_build_acc_plan prog, ?_⟩
  intro r pq h
  have h' : (AMap.get? (buildPlan prog) r).map encQ = some pq := by
    rw [← lookup_mapVals encQ]; exact h
  cases hq : AMap.get? (buildPlan prog) r with
  | none => rw [hq] at h'; cases h'
  | some q =>
    rw [hq] at h'
    have hget : (buildPlan prog).get r = q := by simp [Queues.get, hq]
    refine ⟨q, by simpa using h'.symm, ?_, ?_⟩
    · rw [← hget]; exact Hazards.abs_buildPlan prog r
    · rw [← hget]; exact Hazards.wf_buildPlan prog r

/-! non-vacuity: `ADD R1 <- R1, R2 ; SUB R2 <- R1` over registers numbered 1, 2 -/
example : (_build_acc_plan (indexed 0 [⟨[1, 2], 1, 0⟩, ⟨[1], 2, 0⟩] : List (Nat × HwInstruction Nat))).toOption.map
    (fun d => d.items.map (fun kv => (kv.1, kv.2._queue.map (fun g => g.reqs.elems)))) =
    some [(1, [[1], [0], [0]]), (2, [[1], [0]])] := by decide +kernel

end ProcSim.GenTie
