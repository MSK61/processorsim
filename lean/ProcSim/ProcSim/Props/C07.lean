import ProcSim.Lemmas.Advance
import ProcSim.Lemmas.Checker
/-!
# C07 — eager advance: structural stalls only for real contention, oldest first

For every well-formed processor, every program and every pair of consecutive cycles `t-1`, `t` of a diagram handed
out by `simulate`:

* **no bubble** — an instruction that is not data-stalled in a non-output unit `u` in cycle `t-1` and is still in `u`
  in cycle `t` stays only because every successor of `u` supporting its capability is full at the end of cycle `t`,
  or would need the memory port, which another instruction took in cycle `t`;
* **outputs flush** — an instruction that is not data-stalled in an output-boundary unit in cycle `t-1` is not in
  that unit in cycle `t`;
* **oldest first** — if `y` enters `d` in cycle `t` while an older `x < y`, ready in a predecessor of `d` that `d`
  supports, stays behind, then `d` needs the memory port for `x`, not for `y`, and another instruction took the port
  in cycle `t`.

Proof (`Lemmas/Advance.lean`, namespace `ProcSim.Adv`): one fill phase is analysed destination by destination. The stored order is
sink-first (`structOK_destsOK`), so when a destination `d` is filled, each predecessor still holds exactly what is
left of its previous content (`mem_stBefore_of_stays`: anything that left went into an already processed — hence final —
destination, and no index is hosted twice, `RowND`); a ready instruction there is a candidate; `fillTaken_stop` /
`fillTaken_oldest` say why a candidate was not taken; a set memory flag has a witness among the taken candidates of
the destinations processed so far (`flag_witness`), and a taken candidate *enters* (`taken_facts`). After its own
processing `d` is final (its successors were filled earlier, the issue loop touches input-boundary ports only,
relabelling keeps indices), so "full when filled" is "full at the end of the cycle".
-/
namespace ProcSim
open Spec

attribute [local implicit_reducible] AMap

variable {N : Type} [DecidableEq N]

namespace C07

/-- body of the first clause of `Spec.C07` for cycle `t`; `flushAt`, `oldestAt`: second and third (`C07_eq`) -/
def noBubbleAt (c : Ctx N) (t : Nat) : Bool :=
  c.units.all (fun u => isOutB c.p u.name || (c.occ (t - 1) u.name).all (fun h =>
    h.st == .D || !c.isIn t u.name h.idx ||
    (succsOf c.p u.name).all (fun v => !supports c.prog h.idx v || c.full t v ||
      (needsMem c.prog h.idx v && c.memTakenByOther t h.idx))))

def flushAt (c : Ctx N) (t : Nat) : Bool :=
  c.units.all (fun u => !isOutB c.p u.name || (c.occ (t - 1) u.name).all (fun h =>
    h.st == .D || !c.isIn t u.name h.idx))

def oldestAt (c : Ctx N) (t : Nat) : Bool :=
  c.units.all (fun d => (c.occ t d.name).all (fun y => !c.entersAt t d.name y.idx ||
    (predsOf c.p d.name).all (fun pn => (c.occ (t - 1) pn).all (fun x =>
      !(decide (x.idx < y.idx) && x.st != .D && supports c.prog x.idx d && c.isIn t pn x.idx) ||
      (needsMem c.prog x.idx d && !needsMem c.prog y.idx d && c.memTakenByOther t x.idx)))))

theorem C07_eq (c : Ctx N) :
    Spec.C07 c =
      [ ("no bubble: a ready instruction stays only if every supporting successor is full or memory-blocked",
          ((List.range c.T).filter (· ≠ 0)).all (noBubbleAt c)),
        ("a ready instruction in an output port is gone in the next cycle",
          ((List.range c.T).filter (· ≠ 0)).all (flushAt c)),
        ("oldest first: a younger instruction never takes a place an older ready one could have used",
          ((List.range c.T).filter (· ≠ 0)).all (oldestAt c)) ] := rfl

end C07

section
variable [LT N] [DecidableRel (α := N) (· < ·)]
variable (p : Proc N) (prog : List (Instr N)) (tbl : List (Util N)) (stalled : Bool)

local notation "row" t => List.getD tbl t ([] : List (N × List HI))

section
omit [LT N] [DecidableRel (α := N) (· < ·)]

namespace C07

omit [DecidableEq N] in
theorem ctx_prog : (ctx p prog tbl stalled).prog = prog := rfl
omit [DecidableEq N] in
theorem ctx_p : (ctx p prog tbl stalled).p = p := rfl
omit [DecidableEq N] in
theorem ctx_units : (ctx p prog tbl stalled).units = p.allUnits := rfl
theorem ctx_occ (t : Nat) (n : N) : (ctx p prog tbl stalled).occ t n = (row t).get n := rfl

theorem isIn_iff (t : Nat) (n : N) (i : Nat) :
    (ctx p prog tbl stalled).isIn t n i = true ↔ Adv.Hosts (row t) n i :=
  Ctx.isIn_iff _ t n i

theorem isIn_eq_false_iff (t : Nat) (n : N) (i : Nat) :
    (ctx p prog tbl stalled).isIn t n i = false ↔ ¬ Adv.Hosts (row t) n i := by
  rw [← isIn_iff p prog tbl stalled, Bool.not_eq_true]

theorem entersAt_iff {t : Nat} (ht : t ≠ 0) (n : N) (i : Nat) :
    (ctx p prog tbl stalled).entersAt t n i = true ↔ Adv.Hosts (row t) n i ∧ ¬ Adv.Hosts (row (t - 1)) n i := by
  rw [Ctx.entersAt_iff, prevRow, if_neg ht]
  exact Iff.rfl

theorem full_iff (t : Nat) (v : UnitM N) :
    (ctx p prog tbl stalled).full t v = true ↔ v.width ≤ ((row t).get v.name).length := by
  unfold Ctx.full
  rw [ctx_occ]
  exact decide_eq_true_iff

theorem memTakenByOther_iff {t : Nat} (ht : t ≠ 0) (i : Nat) :
    (ctx p prog tbl stalled).memTakenByOther t i = true ↔ Adv.MemTakenByOther p prog (row (t - 1)) (row t) i := by
  unfold Ctx.memTakenByOther Adv.MemTakenByOther
  simp only [List.any_eq_true, Bool.and_eq_true, bne_iff_ne, ne_eq, entersAt_iff p prog tbl stalled ht]
  constructor
  · rintro ⟨w, hw, h, hh, ⟨hne, h1, h2⟩, h3⟩
    exact ⟨w, hw, h.idx, h1, hne, h2, h3⟩
  · rintro ⟨w, hw, j, h1, hne, h2, h3⟩
    obtain ⟨h, hh, rfl⟩ := List.mem_map.1 h1
    exact ⟨w, hw, h, hh, ⟨hne, h1, h2⟩, h3⟩

theorem isOutB_iff (n : N) : isOutB p n = true ↔ n ∈ p.outBoundary := by
  simp only [isOutB, decide_eq_true_eq]

theorem isOutB_eq_false_iff (n : N) : isOutB p n = false ↔ n ∉ p.outBoundary := by
  simp only [isOutB, decide_eq_false_iff_not]

theorem noBubbleAt_iff {t : Nat} (ht : t ≠ 0) :
    noBubbleAt (ctx p prog tbl stalled) t = true ↔
      ∀ u ∈ p.allUnits, u.name ∉ p.outBoundary → ∀ h ∈ (row (t - 1)).get u.name, h.st ≠ .D →
        Adv.Hosts (row t) u.name h.idx → ∀ v ∈ succsOf p u.name, supports prog h.idx v = true →
          v.width ≤ ((row t).get v.name).length ∨
            (needsMem prog h.idx v = true ∧ Adv.MemTakenByOther p prog (row (t - 1)) (row t) h.idx) := by
  unfold noBubbleAt
  simp only [Bool.or_assoc, ctx_units, ctx_p, ctx_prog, ctx_occ]
  rw [List.all_eq_true]
  refine forall₂_congr fun u _ => ?_
  rw [or_eq_true_iff_imp, isOutB_eq_false_iff, List.all_eq_true]
  refine imp_congr_right fun _ => forall₂_congr fun h _ => ?_
  rw [or_eq_true_iff_imp, beq_eq_false_iff_ne, not_or_eq_true, isIn_iff, List.all_eq_true]
  refine imp_congr_right fun _ => imp_congr_right fun _ => forall₂_congr fun v _ => ?_
  rw [not_or_eq_true, Bool.or_eq_true, Bool.and_eq_true, full_iff, memTakenByOther_iff p prog tbl stalled ht]

theorem flushAt_iff (t : Nat) :
    flushAt (ctx p prog tbl stalled) t = true ↔
      ∀ u ∈ p.allUnits, u.name ∈ p.outBoundary → ∀ h ∈ (row (t - 1)).get u.name, h.st ≠ .D →
        ¬ Adv.Hosts (row t) u.name h.idx := by
  unfold flushAt
  simp only [ctx_units, ctx_p, ctx_occ]
  rw [List.all_eq_true]
  refine forall₂_congr fun u _ => ?_
  rw [not_or_eq_true, isOutB_iff, List.all_eq_true]
  refine imp_congr_right fun _ => forall₂_congr fun h _ => ?_
  rw [or_eq_true_iff_imp, beq_eq_false_iff_ne, Bool.not_eq_true', isIn_eq_false_iff]

theorem oldestAt_iff {t : Nat} (ht : t ≠ 0) :
    oldestAt (ctx p prog tbl stalled) t = true ↔
      ∀ d ∈ p.allUnits, ∀ y, Adv.Hosts (row t) d.name y → ¬ Adv.Hosts (row (t - 1)) d.name y →
        ∀ pn ∈ predsOf p d.name, ∀ x ∈ (row (t - 1)).get pn, x.idx < y → x.st ≠ .D →
          supports prog x.idx d = true → Adv.Hosts (row t) pn x.idx →
          needsMem prog x.idx d = true ∧ needsMem prog y d = false ∧
            Adv.MemTakenByOther p prog (row (t - 1)) (row t) x.idx := by
  unfold oldestAt
  simp only [ctx_units, ctx_p, ctx_prog, ctx_occ]
  rw [List.all_eq_true]
  refine forall₂_congr fun d _ => ?_
  -- the checker runs over the entries of the row, the statement over their indices
  rw [List.all_eq_true, List.forall_mem_map]
  refine forall₂_congr fun y hy => ?_
  rw [not_or_eq_true, entersAt_iff p prog tbl stalled ht, and_imp, imp_iff_right (List.mem_map_of_mem hy),
    List.all_eq_true]
  refine imp_congr_right fun _ => forall₂_congr fun pn _ => ?_
  rw [List.all_eq_true]
  refine forall₂_congr fun x _ => ?_
  simp only [not_or_eq_true, Bool.and_eq_true, decide_eq_true_eq, bne_iff_ne, ne_eq, Bool.not_eq_true', isIn_iff,
    memTakenByOther_iff p prog tbl stalled ht, and_imp, and_assoc]

end C07

/-- **The Bool clauses of C07 say exactly**: every recorded cycle but the first is related to the cycle before by
`Adv.C07Rel` (no bubble / outputs flush / oldest first, see `Lemmas/Advance.lean`). -/
theorem C07_ok_iff :
    (Spec.C07 (ctx p prog tbl stalled)).ok = true ↔
      ∀ t, 0 < t → t < tbl.length → Adv.C07Rel p prog (row (t - 1)) (row t) := by
  rw [C07.C07_eq]
  simp only [Clauses.ok_cons, Clauses.ok_nil, and_true, List.all_eq_true, List.mem_filter, List.mem_range,
    decide_eq_true_eq, Ctx.T]
  constructor
  · rintro ⟨h1, h2, h3⟩ t ht0 ht
    have hm : t < tbl.length ∧ t ≠ 0 := ⟨ht, Nat.ne_of_gt ht0⟩
    exact ⟨(C07.noBubbleAt_iff p prog tbl stalled hm.2).1 (h1 t hm), (C07.flushAt_iff p prog tbl stalled t).1 (h2 t hm),
      (C07.oldestAt_iff p prog tbl stalled hm.2).1 (h3 t hm)⟩
  · intro H
    have H' : ∀ t, t < tbl.length ∧ t ≠ 0 → Adv.C07Rel p prog (row (t - 1)) (row t) :=
      fun t ht => H t (Nat.pos_of_ne_zero ht.2) ht.1
    exact ⟨fun t ht => (C07.noBubbleAt_iff p prog tbl stalled ht.2).2 (H' t ht).noBubble,
      fun t ht => (C07.flushAt_iff p prog tbl stalled t).2 (H' t ht).flush,
      fun t ht => (C07.oldestAt_iff p prog tbl stalled ht.2).2 (H' t ht).oldest⟩

end

theorem C07_advance_rel (p : Proc N) (prog : List (Instr N)) (tbl : List (Util N)) (stalled : Bool)
    (hwf : wfProc p = true) (h : Diagram p prog tbl stalled) :
    ∀ t, 0 < t → t < tbl.length →
      Adv.C07Rel p prog (tbl.getD (t - 1) ([] : List (N × List HI))) (tbl.getD t ([] : List (N × List HI))) := by
  intro t ht0 ht
  have := Adv.Diagram_C07Rel (structOK_of_wfProc hwf) h t ht
  rwa [prevRow, if_neg (by omega)] at this

/-- **C07.** For a well-formed processor, every diagram of `simulate` passes the C07 checker. -/
theorem C07_advance (p : Proc N) (prog : List (Instr N)) (tbl : List (Util N)) (stalled : Bool)
    (hwf : wfProc p = true) (h : Diagram p prog tbl stalled) :
    (Spec.C07 (ctx p prog tbl stalled)).ok = true :=
  (C07_ok_iff p prog tbl stalled).2 (C07_advance_rel p prog tbl stalled hwf h)

/-- **C07 (a), readable: no bubble.** `h` is in non-output unit `u` in cycle `t-1`, not data-stalled, and still in
`u` in cycle `t`; then every successor `v` of `u` supporting its capability is full in cycle `t`, or needs the memory
port for it while another instruction `j` entered, in cycle `t`, a unit `w` whose ACL names `j`'s capability. -/
theorem C07_no_bubble (hwf : wfProc p = true) (hd : Diagram p prog tbl stalled)
    {t : Nat} (ht0 : 0 < t) (ht : t < tbl.length) {u : UnitM N} (hu : u ∈ p.allUnits) (hout : u.name ∉ p.outBoundary)
    {h : HI} (hh : h ∈ (row (t - 1)).get u.name) (hnd : h.st ≠ .D)
    (hst : h.idx ∈ ((row t).get u.name).map (·.idx))
    {v : UnitM N} (hv : v ∈ succsOf p u.name) (hsup : supports prog h.idx v = true) :
    v.width ≤ ((row t).get v.name).length ∨
      (needsMem prog h.idx v = true ∧
        ∃ w ∈ p.allUnits, ∃ j, j ∈ ((row t).get w.name).map (·.idx) ∧ j ≠ h.idx ∧
          j ∉ ((row (t - 1)).get w.name).map (·.idx) ∧ needsMem prog j w = true) :=
  (C07_advance_rel p prog tbl stalled hwf hd t ht0 ht).noBubble u hu hout h hh hnd hst v hv hsup

/-- **C07 (b), readable: outputs flush.** -/
theorem C07_outputs_flush (hwf : wfProc p = true) (hd : Diagram p prog tbl stalled)
    {t : Nat} (ht0 : 0 < t) (ht : t < tbl.length) {u : UnitM N} (hu : u ∈ p.allUnits) (hout : u.name ∈ p.outBoundary)
    {h : HI} (hh : h ∈ (row (t - 1)).get u.name) (hnd : h.st ≠ .D) :
    h.idx ∉ ((row t).get u.name).map (·.idx) :=
  (C07_advance_rel p prog tbl stalled hwf hd t ht0 ht).flush u hu hout h hh hnd

/-- **C07 (c), readable: oldest first.** `y` enters `d` in cycle `t`; an older `x`, not data-stalled in predecessor
`pn` of `d` in cycle `t-1` and supported by `d`, is still in `pn` in cycle `t`; then `d` needs the memory port for
`x`, not for `y`, and another instruction took the port in cycle `t`. -/
theorem C07_oldest_first (hwf : wfProc p = true) (hd : Diagram p prog tbl stalled)
    {t : Nat} (ht0 : 0 < t) (ht : t < tbl.length) {d : UnitM N} (hdu : d ∈ p.allUnits) {y : Nat}
    (hy : y ∈ ((row t).get d.name).map (·.idx)) (hyold : y ∉ ((row (t - 1)).get d.name).map (·.idx))
    {pn : N} (hpn : pn ∈ predsOf p d.name) {x : HI} (hx : x ∈ (row (t - 1)).get pn) (hlt : x.idx < y)
    (hnd : x.st ≠ .D) (hsup : supports prog x.idx d = true) (hst : x.idx ∈ ((row t).get pn).map (·.idx)) :
    needsMem prog x.idx d = true ∧ needsMem prog y d = false ∧
      ∃ w ∈ p.allUnits, ∃ j, j ∈ ((row t).get w.name).map (·.idx) ∧ j ≠ x.idx ∧
        j ∉ ((row (t - 1)).get w.name).map (·.idx) ∧ needsMem prog j w = true :=
  (C07_advance_rel p prog tbl stalled hwf hd t ht0 ht).oldest d hdu y hy hyold pn hpn x hx hlt hnd hsup hst

end

/-! Non-vacuity. Input port `0` (width 2, read lock, capabilities `7` and `8`) feeds the join `2` (width 1, ACL `[7]`) directly and
through unit `1` (width 1, capability `7` only) — two routes of unequal length; `2` feeds the output port `3` (width
1, write lock, ACL `[8]`). Program: `i0` (capability 8), `i1` (7), `i2` (8), no register shared.

Cycle 0: `i0`, `i1` issue into port `0`. Cycle 1: the join takes the oldest candidate `i0`; `i1` takes the long
route into unit `1`; `i2` issues. Cycle 2: `i0` enters the output port and takes the memory port (ACL `[8]`); the
join scans `i1` (in `1`) before `i2` (in `0`): `i1` needs the busy memory port (ACL `[7]`) and is skipped, the
younger `i2` does not and is taken. So in cycle 2 the premise of "oldest first" holds (`i2` enters `2` while the
older, ready `i1` stays in `1`) together with its conclusion, and the memory disjunct of "no bubble" is attained. -/
namespace C07Example

def u0 : UnitM Nat := ⟨0, 2, [7, 8], true, false, []⟩
def u1 : UnitM Nat := ⟨1, 1, [7], false, false, []⟩
def u2 : UnitM Nat := ⟨2, 1, [7, 8], false, false, [7]⟩
def u3 : UnitM Nat := ⟨3, 1, [7, 8], false, true, [8]⟩
def proc : Proc Nat :=
  { inPorts := [u0], outPorts := [⟨u3, [2]⟩], inOut := [], internal := [⟨u2, [0, 1]⟩, ⟨u1, [0]⟩] }
def prog : List (Instr Nat) := [⟨[10], 11, 8⟩, ⟨[12], 13, 7⟩, ⟨[14], 15, 8⟩]

example : wfProc proc = true := by decide +kernel

/-- the run returns a diagram; in cycle 2 the younger `i2` enters the join `2` while the older ready `i1` stays in
unit `1` (label `U` in cycle 1), because `i1` needs the memory port there, `i2` does not, and `i0` took it -/
example : (match simulate proc prog with
    | .done tbl =>
      let c := ctx proc prog tbl false
      c.entersAt 2 2 2 && c.isIn 2 1 1 && (c.occ 1 1 == [⟨1, .U⟩]) && supports prog 1 u2 &&
      needsMem prog 1 u2 && !needsMem prog 2 u2 && c.memTakenByOther 2 1 &&
      -- and the checker accepts the diagram
      (Spec.C07 c).ok
    | _ => false) = true := by decide +kernel

def isDone : Outcome Nat → Bool
  | .done _ => true
  | _ => false

/-- the hypotheses of `C07_advance` are satisfiable and the theorem applies to the diagram -/
example : ∃ tbl, Diagram proc prog tbl false ∧ (Spec.C07 (ctx proc prog tbl false)).ok = true := by
  have hd : isDone (simulate proc prog) = true := by decide +kernel
  cases h : simulate proc prog with
  | done tbl => exact ⟨tbl, Or.inl ⟨rfl, h⟩, C07_advance proc prog tbl false (by decide +kernel) (Or.inl ⟨rfl, h⟩)⟩
  | stall tbl => rw [h] at hd; cases hd
  | fault f => rw [h] at hd; cases hd

end C07Example

end ProcSim
