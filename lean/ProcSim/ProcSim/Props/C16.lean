import ProcSim.Lemmas.CliCompose
import ProcSim.Lemmas.Isa
import ProcSim.Lemmas.Pipeline
import ProcSim.Props.C03
/-!
# C16 — the printed table renders the diagram

* `C16_render_cells` — for every gap-free diagram (`diagramOK d n`, what C03 gives for a finished simulation) whose
  cycle records have unique keys, `Cli.render` **succeeds** (none of the explicit `RenderError`s — `IndexError`,
  `ValueError`, `KeyError` — is reachable) and the table satisfies `C16_Holds`: `n + 1` rows, header `"", 1 … T`
  with `T` the last busy cycle, row `k` keyed `I<k>`, cell `(k, t)` is `"<L>:<u>"` exactly when the diagram hosts
  `(k-1, L)` in unit `u` in cycle `t-1`, and empty/absent exactly when it hosts instruction `k-1` nowhere then.
* `C16_cli_composition` — C03's checker on a returned diagram implies `diagramOK`, hence (`C16_cli_table`) the table
  printed for it satisfies `C16_Holds`.

The renderer and the checker are read against the diagram in `Lemmas/Cli.lean`; `Lemmas/CliCompose.lean` relates the
positions C03 speaks of to the counts of `diagramOK`.

`C16_render_cells` and `checkC16_iff` both take both hypotheses, since both go through `cellBad_iff`, and each
hypothesis is forced in both by the same example:
* `Function.Injective sh`: with `sh := fun _ => "x"`, `d := [[(0, [⟨0, U⟩])]]`, `n := 1` the renderer prints `"U:x"` in
  cell (1, 1) and the checker accepts that table, but the clause `cell = "<L>:<sh u>" ↔ Hosted … u …` of `C16_Holds`
  fails: `"U:x"` also equals `"U:" ++ sh 1` although unit `1` hosts nothing (`C16_injective_needed`, stated for the
  renderer).
* unique keys in every cycle record: with `d := [[(0, []), (0, [⟨0, U⟩])]]` the diagram is still gap-free, the renderer
  prints and the checker collects `"U:…"` from the second entry, while `Hosted` (reading the record like a dict: first
  entry) sees nothing (`C16_check_nodup_needed`, stated for the checker).
-/
namespace ProcSim
open Spec Spec.Text Cli CliLemmas

attribute [local implicit_reducible] AMap

variable {N : Type} [DecidableEq N]

/-- **C16 (cells)**: a gap-free diagram is rendered without error, cell by cell. -/
theorem C16_render_cells (sh : N → String) (hsh : Function.Injective sh) (d : List (Cycle N)) (n : Nat)
    (hok : diagramOK d n = true) (hnd : ∀ c ∈ d, (AMap.keys c).Nodup) :
    ∃ tbl, Cli.render sh d n = .ok tbl ∧ C16_Holds sh d n tbl := by
  obtain ⟨hidx, hblock⟩ := (diagramOK_iff d n).1 hok
  have hone : ∀ c ∈ d, ∀ i, i < n → occCount c i ≤ 1 := by
    intro c hc i hi
    obtain ⟨a, b, c', _, ho⟩ := hblock i hi
    exact le_one_of_mem_zeroOneZero (ho ▸ List.mem_map.2 ⟨c, hc, rfl⟩)
  obtain ⟨rows, hrows, hlen, hrow⟩ := simRows_spec sh d n hok
  have hrender : Cli.render sh d n = .ok (table rows) := by
    simp only [render]
    have hrows' : simRows sh d n = .ok rows := hrows
    simp only [hrows']
  refine ⟨table rows, hrender, ?_, ?_, ?_, ?_⟩
  · simp [table, keyRows_length, hlen]
  · simp [table, header, lastTick_eq_lastBusy sh d n hidx rows hlen hrow]
  · intro k hk1 hkn
    obtain ⟨j, rfl⟩ : ∃ j, k = j + 1 := ⟨k - 1, by omega⟩
    exact cell_table_key rows j (by rw [hlen]; omega)
  · intro k t hk1 hkn ht1
    obtain ⟨j, rfl⟩ : ∃ j, k = j + 1 := ⟨k - 1, by omega⟩
    obtain ⟨t', rfl⟩ : ∃ t', t = t' + 1 := ⟨t - 1, by omega⟩
    obtain ⟨r, hr, hcell, _⟩ := hrow j (by omega)
    have hx : cell (table rows) (j + 1) (t' + 1) = ((posInDiagram d t' j).map (Pos.str sh)).getD "" := by
      rw [cell_table, hr, Option.bind_some, hcell]
    simp only [Nat.add_sub_cancel]
    rw [hx]
    exact cellOK_of_pos sh hsh d t' j (fun c hc => hone c hc j (by omega)) hnd

/-- **the driver's checker decides `C16_Holds`** (both hypotheses are needed, see the file header) -/
theorem checkC16_iff (sh : N → String) (hsh : Function.Injective sh) (d : List (Cycle N)) (n : Nat)
    (tbl : List (List String)) (hnd : ∀ c ∈ d, (AMap.keys c).Nodup) :
    checkC16 sh d n tbl = none ↔ C16_Holds sh d n tbl := by
  simp only [checkC16, C16_Holds, ite_some_eq_none, bne_eq_false_iff_eq, checkRows_none_iff]
  refine and_congr_right fun _ => and_congr_right fun _ => ?_
  obtain ⟨hw1, hw2⟩ := foldl_max_ge tbl (d.length + 1)
  generalize tbl.foldl (fun m r => max m r.length) (d.length + 1) = width at hw1 hw2 ⊢
  constructor
  · intro h
    refine ⟨fun k hk1 hkn => (h k hk1 (by omega)).1, fun k t hk1 hkn ht1 => ?_⟩
    by_cases htw : t < 1 + width
    · exact (cellBad_iff sh hsh d _ (t - 1) (k - 1) hnd).1 ((h k hk1 (by omega)).2 t ht1 htw)
    · apply (cellBad_iff sh hsh d _ (t - 1) (k - 1) hnd).1
      have hd : d[t - 1]? = none := List.getElem?_eq_none (by omega)
      have hx : cell tbl k t = "" := by
        unfold cell
        cases hr : tbl[k]? with
        | none => rfl
        | some r =>
          have : r[t]? = none := List.getElem?_eq_none (by
            have := hw2 r (List.mem_of_getElem? hr); omega)
          simp [this]
      simp [hostStrsAt, hd, hx, cellBad]
  · rintro ⟨hkeys, hcells⟩ k' h1 h2
    exact ⟨hkeys k' h1 (by omega), fun t' ht1 _ =>
      (cellBad_iff sh hsh d _ (t' - 1) (k' - 1) hnd).2 (hcells k' t' h1 (by omega) ht1)⟩

theorem checkC16_model (sh : N → String) (hsh : Function.Injective sh) (d : List (Cycle N)) (n : Nat)
    (hok : diagramOK d n = true) (hnd : ∀ c ∈ d, (AMap.keys c).Nodup) :
    ∃ tbl, Cli.render sh d n = .ok tbl ∧ checkC16 sh d n tbl = none := by
  obtain ⟨tbl, h1, h2⟩ := C16_render_cells sh hsh d n hok hnd
  exact ⟨tbl, h1, (checkC16_iff sh hsh d n tbl hnd).2 h2⟩

/-- **C16 (composition)**: a returned diagram that passes C03's checker is gap-free in the sense of `diagramOK`. -/
theorem C16_cli_composition (p : Proc N) (prog : List (Instr N)) (tbl : List (Util N))
    (hnd : ∀ c ∈ tbl, (AMap.keys c).Nodup)
    (h03 : (Spec.C03 (ctx p prog tbl false)).ok = true) :
    diagramOK tbl prog.length = true := by
  have h := (C03_ok_iff _).1 h03
  have hk : (ctx p prog tbl false).enteredCount = prog.length := h.complete rfl
  have hunits : ∀ (t : Nat) (ht : t < tbl.length), ∀ e ∈ AMap.toList tbl[t], e.2 ≠ [] →
      ∃ u ∈ p.allUnits, u.name = e.1 := by
    intro t ht e he hne
    have hr : tbl.getD t [] = tbl[t] := by simp [List.getD_eq_getElem?_getD, ht]
    have he' : e ∈ AMap.toList (tbl.getD t []) := by rw [hr]; exact he
    exact List.mem_map.1 ((h.unitsOnly t ht e he').resolve_left hne)
  refine (diagramOK_iff tbl prog.length).2 ⟨fun c hc e he x hx => ?_, fun i hi => ?_⟩
  · -- the entry is a unit's, and the unit's look-up returns it
    obtain ⟨t, ht, rfl⟩ := List.getElem_of_mem hc
    obtain ⟨u, hu, hname⟩ := hunits t ht e he (List.ne_nil_of_mem hx)
    have hr : tbl.getD t [] = tbl[t] := by simp [List.getD_eq_getElem?_getD, ht]
    apply h.inProgram t ht u hu x
    show x ∈ Bag.get (tbl.getD t []) u.name
    obtain ⟨ex, el⟩ := e
    rw [hr, hname, Bag.get_of_mem (hnd _ hc) he]
    exact hx
  · -- the positions of `i`, cycle by cycle, have consecutive times: they fill an interval of cycles, one each
    obtain ⟨s, m, hm, hsm, hlen⟩ := rows_interval (fun t => C16_posRow p.allUnits (tbl.getD t []) t i) tbl.length
      (fun t => C16_posRow_fst _ _ t i) ((Routes.consec_iff_adjacent _).2 (h.route i (hk ▸ hi)).contiguous)
      (fun e => by
        have := (h.isPrefix i hi).2 (hk ▸ hi)
        rw [Ctx.issued, C16_positions_eq, e] at this
        cases this)
    refine ⟨s, m, _, hm, eq_zeroOneZero_of_getElem (tbl.map (fun c => occCount c i)) s m
      (by rw [List.length_map]; exact hsm) fun t ht => ?_⟩
    rw [List.length_map] at ht
    have hr : tbl.getD t [] = tbl[t] := by simp [List.getD_eq_getElem?_getD, ht]
    have hl := hlen t ht
    rw [hr] at hl
    rw [List.getElem_map, ← hl]
    apply C16_occCount_eq p.allUnits tbl[t] t i (hnd _ (List.getElem_mem ht)) (hunits t ht)
    rw [hl]
    split <;> omega

theorem C16_cli_table (sh : N → String) (hsh : Function.Injective sh) (p : Proc N) (prog : List (Instr N))
    (tbl : List (Util N)) (hnd : ∀ c ∈ tbl, (AMap.keys c).Nodup)
    (h03 : (Spec.C03 (ctx p prog tbl false)).ok = true) :
    ∃ out, Cli.render sh tbl prog.length = .ok out ∧ C16_Holds sh tbl prog.length out :=
  C16_render_cells sh hsh tbl prog.length (C16_cli_composition p prog tbl hnd h03) hnd

section sim
variable [LT N] [DecidableRel (α := N) (· < ·)]

/-- the records of a diagram of `simulate` have unique keys (from `Lemmas/SimCore`: `Diagram_rowBase`) -/
theorem C16_diagram_keys_nodup (p : Proc N) (prog : List (Instr N)) (tbl : List (Util N)) (stalled : Bool)
    (hn : (p.allUnits.map (·.name)).Nodup) (hD : Spec.Diagram p prog tbl stalled) :
    ∀ c ∈ tbl, (AMap.keys c).Nodup := by
  obtain ⟨e, _, hrows⟩ := Diagram_rowBase hn hD
  intro c hc
  obtain ⟨t, ht⟩ := List.getElem?_of_mem hc
  have := (hrows t).keys_nodup
  rwa [show tbl.getD t ([] : List (N × List HI)) = c by simp [List.getD_eq_getElem?_getD, ht]] at this

/-- **C16 (composition), for the simulator's own diagrams**: the only thing taken from C03 is its conclusion. -/
theorem C16_cli_composition_sim (sh : N → String) (hsh : Function.Injective sh) (p : Proc N) (prog : List (Instr N))
    (tbl : List (Util N)) (hn : (p.allUnits.map (·.name)).Nodup) (hD : Spec.Diagram p prog tbl false)
    (h03 : (Spec.C03 (ctx p prog tbl false)).ok = true) :
    diagramOK tbl prog.length = true ∧
    ∃ out, Cli.render sh tbl prog.length = .ok out ∧ C16_Holds sh tbl prog.length out := by
  have hnd := C16_diagram_keys_nodup p prog tbl false hn hD
  exact ⟨C16_cli_composition p prog tbl hnd h03, C16_cli_table sh hsh p prog tbl hnd h03⟩

end sim

/-- the command line prints, for every run that completes and whose diagram passes C03's checker, a table that
satisfies `C16_Holds` for that diagram (unit names printed as they are). `wfProc`'s first conjunct (unique unit
names) gives the unique keys. -/
theorem C16_cli_pipeline (desc : Loader.Desc Pipeline.Str) (rawIsa : List (Pipeline.Str × Pipeline.Str))
    (lines : List Pipeline.Str) (st : Pipeline.Stages) (tbl : List (Util Pipeline.Str))
    (hrun : Pipeline.run desc rawIsa lines = .ok (st, .done tbl))
    (hn : (st.proc.allUnits.map (·.name)).Nodup)
    (h03 : (Spec.C03 (ctx st.proc st.prog tbl false)).ok = true) :
    ∃ t, Pipeline.cliTable desc rawIsa lines = some t ∧ C16_Holds String.ofList tbl st.prog.length t := by
  have hfront := Pipeline.run_ok hrun
  have hlen : st.parsed.length = st.prog.length :=
    (IsaLemmas.compileProgram_length _ _ _ (Pipeline.front_ok hfront.1).2.2.2).symm
  have hD : Spec.Diagram st.proc st.prog tbl false := .inl ⟨rfl, hfront.2⟩
  obtain ⟨_, out, hr, hH⟩ := C16_cli_composition_sim String.ofList (fun _ _ h => String.ofList_injective h)
    st.proc st.prog tbl hn hD h03
  refine ⟨out, ?_, hH⟩
  unfold Pipeline.cliTable
  rw [hrun]
  simp only [hlen, hr]

section Examples

/-- two instructions through two units: 0 in unit 0 then unit 1; 1 one cycle behind, stalled once -/
def C16_exDiagram : List (Cycle Nat) :=
  [[(0, [⟨0, .U⟩])], [(0, [⟨1, .U⟩]), (1, [⟨0, .U⟩])], [(0, [⟨1, .S⟩])], [(1, [⟨1, .U⟩]), (0, [])]]

def C16_exSh (n : Nat) : String := if n = 0 then "a" else "b"

example : diagramOK C16_exDiagram 2 = true := by decide +kernel
example : ∀ c ∈ C16_exDiagram, (AMap.keys c).Nodup := by decide +kernel

example : (match Cli.render C16_exSh C16_exDiagram 2 with
    | .ok tbl => decide (tbl = [["", "1", "2", "3", "4"], ["I1", "U:a", "U:b"], ["I2", "", "U:a", "S:a", "U:b"]])
    | .error _ => false) = true := by decide +kernel

example : checkC16 C16_exSh C16_exDiagram 2
    [["", "1", "2", "3", "4"], ["I1", "U:a", "U:b"], ["I2", "", "U:a", "S:a", "U:b"]] = none := by decide +kernel

/-- a wrong label, a missing cell and a wrong header are each refuted by the checker -/
example : checkC16 C16_exSh C16_exDiagram 2
    [["", "1", "2", "3", "4"], ["I1", "U:a", "U:b"], ["I2", "", "U:a", "U:a", "U:b"]] ≠ none := by decide +kernel
example : checkC16 C16_exSh C16_exDiagram 2
    [["", "1", "2", "3", "4"], ["I1", "U:a"], ["I2", "", "U:a", "S:a", "U:b"]] ≠ none := by decide +kernel
example : checkC16 C16_exSh C16_exDiagram 2
    [["", "1", "2", "3"], ["I1", "U:a", "U:b"], ["I2", "", "U:a", "S:a", "U:b"]] ≠ none := by decide +kernel

/-- the explicit errors are reachable when `diagramOK` fails: a gap (`KeyError`), an instruction that never appears
(`ValueError`), an index beyond the program (`IndexError`) -/
example : diagramOK ([[(0, [⟨0, .U⟩])], [], [(0, [⟨0, .U⟩])]] : List (Cycle Nat)) 1 = false := by decide +kernel
example : (match Cli.render C16_exSh ([[(0, [⟨0, .U⟩])], [], [(0, [⟨0, .U⟩])]] : List (Cycle Nat)) 1 with
    | .error e => decide (e = .gap 0 1)
    | .ok _ => false) = true := by decide +kernel
example : (match Cli.render C16_exSh ([[(0, [⟨0, .U⟩])]] : List (Cycle Nat)) 2 with
    | .error e => decide (e = .neverAppears 1)
    | .ok _ => false) = true := by decide +kernel
example : (match Cli.render C16_exSh ([[(0, [⟨3, .U⟩])]] : List (Cycle Nat)) 2 with
    | .error e => decide (e = .badIndex 0 3)
    | .ok _ => false) = true := by decide +kernel

/-- `Function.Injective sh` cannot be dropped from `C16_render_cells` -/
theorem C16_injective_needed :
    ¬ (∀ tbl, Cli.render (fun _ : Nat => "x") [[(0, [⟨0, .U⟩])]] 1 = .ok tbl →
        C16_Holds (fun _ : Nat => "x") [[(0, [⟨0, .U⟩])]] 1 tbl) := by
  intro h
  have hH := h [["", "1"], ["I1", "U:x"]] (by rfl)
  have := ((hH.2.2.2 1 1 (Nat.le_refl _) (Nat.le_refl _) (Nat.le_refl _)).1 .U 1).1 (by decide)
  obtain ⟨c, hc, hm⟩ := this
  simp at hc
  subst hc
  revert hm
  decide

/-- unique keys cannot be dropped from `checkC16_iff` -/
theorem C16_check_nodup_needed :
    ¬ (checkC16 (fun _ : Unit => "x") [[((), []), ((), [⟨0, .U⟩])]] 1 [["", "1"], ["I1", "U:x"]] = none ↔
        C16_Holds (fun _ : Unit => "x") [[((), []), ((), [⟨0, .U⟩])]] 1 [["", "1"], ["I1", "U:x"]]) := by
  intro h
  have hH := h.1 (by decide)
  have h4 := (hH.2.2.2 1 1 (Nat.le_refl _) (Nat.le_refl _) (Nat.le_refl _)).2
  have : cell [["", "1"], ["I1", "U:x"]] 1 1 = "" := by
    apply h4.2
    rintro L u ⟨c, hc, hm⟩
    simp at hc
    subst hc
    revert hm
    cases L <;> cases u <;> decide
  revert this
  decide

end Examples

end ProcSim
