import ProcSim.Lemmas.OrderIndep
/-!
# C20 — loading, compiling and simulating are deterministic: the logic part

Property C20 says that loading a processor, loading an instruction set, parsing, compiling and simulating are pure
functions of their inputs, also across processes started with different hash seeds.  Purity of the CPython code
(no hidden state, no mutation of arguments) is a runtime fact and is covered by differential runs.  What *is* logic:
wherever the Python code iterates over a `set`/`frozenset` of `str`-like elements — whose iteration order depends
on `PYTHONHASHSEED` — the canonical result and the error **class** do not depend on that order.  The two places
where the order reaches observable behaviour are modelled literally in `Model/LoaderOrder.lean` with the iteration
order as a parameter `ord` (any function; the theorems assume only that `ord l` is a permutation of `l`):

* `_optimization.chk_terminals`: `for out_port in new_out_ports` over a frozenset, `_rm_dead_end` raising
  `DeadInputError` at the first original input port met (`chkTerminalsP ord`);
* `load_isa`: `SelfIndexSet.create(capabilities)` over the frozenset returned by `get_abilities` (`loadIsaP ord`).

(The other set-valued intermediates never have their order observed: `_clean_unit`'s capability frozensets are only
intersected, united, tested for membership and finally sorted by the `UnitModel` converter — `cleanUnit`, `mkModel`
— and `_get_cap_units` iterates capability *lists* of input ports, which `_clean_unit` skips; `_coll_cap_edges`'
frozenset of edges is only used to set each edge's capacity independently of the others — see the header of
`Model/Loader.lean` for the max-flow contract.)

All statements are for arbitrary graphs / descriptions: no bound on sizes, no well-formedness hypothesis.
-/
namespace ProcSim
namespace C20

open Loader LoaderOrder OrderIndep
open ICase (lower)

section
variable {N : Type} [DecidableEq N]

/-- **C20, dead-end removal**: for every per-round iteration order `ord` of the dead-end set, the literal Python loop
(`chkTerminalsP ord`) and the model (`chkTerminals`, all dead ends at once, first dead input in unit order)

1. accept together, with the same pruned graph (`toOption` equal) — which is `stopGraph in0 out0 fuel g`;
2. reject together;
3. every rejection — of either — is a `DeadInputError` naming an original input port that is a dead end of
   `stopGraph in0 out0 fuel g` (a current output port that was not an output port originally).
   The two named ports may differ (`ex_deadInput_names_differ`); the class is the same. -/
theorem C20_terminals_order_independent (ord : List N → List N) (hord : ∀ l, (ord l).Perm l)
    (in0 out0 : List N) (fuel : Nat) (g : Graph N) :
    (chkTerminalsP ord in0 out0 fuel g).toOption = (chkTerminals in0 out0 fuel g).toOption ∧
    (∀ g', chkTerminals in0 out0 fuel g = .ok g' → g' = stopGraph in0 out0 fuel g) ∧
    ((∃ e, chkTerminalsP ord in0 out0 fuel g = .error e) ↔ (∃ e', chkTerminals in0 out0 fuel g = .error e')) ∧
    (∀ e, chkTerminalsP ord in0 out0 fuel g = .error e →
      e.cls = .deadInput ∧ ∃ p, e = .deadInput p ∧ p ∈ in0 ∧ p ∈ (stopGraph in0 out0 fuel g).outPorts ∧ p ∉ out0) ∧
    (∀ e', chkTerminals in0 out0 fuel g = .error e' →
      e'.cls = .deadInput ∧ ∃ p', e' = .deadInput p' ∧ p' ∈ in0 ∧ p' ∈ (stopGraph in0 out0 fuel g).outPorts ∧ p' ∉ out0) := by
  have h := (sameRun hord in0 out0 fuel g).1
  have hd : ∀ p, DeadInputAt in0 out0 (stopGraph in0 out0 fuel g) p →
      p ∈ in0 ∧ p ∈ (stopGraph in0 out0 fuel g).outPorts ∧ p ∉ out0 := by
    intro p hp
    have := List.mem_filter.1 hp.2
    exact ⟨hp.1, this.1, by simpa using this.2⟩
  generalize chkTerminalsP ord in0 out0 fuel g = x at h
  generalize chkTerminals in0 out0 fuel g = y at h
  cases h with
  | ok =>
    refine ⟨rfl, ?_, ?_, ?_, ?_⟩
    · intro g' hg'; cases hg'; rfl
    · constructor <;> (rintro ⟨e, he⟩; cases he)
    · intro e he; cases he
    · intro e he; cases he
  | err p p' hp hp' =>
    refine ⟨rfl, ?_, ?_, ?_, ?_⟩
    · intro g' hg'; cases hg'
    · exact ⟨fun _ => ⟨_, rfl⟩, fun _ => ⟨_, rfl⟩⟩
    · intro e he; cases he; exact ⟨rfl, p, rfl, hd p hp⟩
    · intro e he; cases he; exact ⟨rfl, p', rfl, hd p' hp'⟩

/-- the port the literal loop names, precisely: in the round that starts with `sg = stopGraph in0 out0 fuel g` the
set `deadEnds out0 sg` is visited in the order `ord …`; the units `pre` visited first are no input ports and have
been removed one by one, and the named port `p` is the first original input port met — still a sink of the graph
it is met in (`sg` without `pre`). -/
theorem C20_literal_loop_named_port (ord : List N → List N) (hord : ∀ l, (ord l).Perm l)
    (in0 out0 : List N) (fuel : Nat) (g : Graph N) (e : LoadError N)
    (h : chkTerminalsP ord in0 out0 fuel g = .error e) :
    ∃ p pre post, e = .deadInput p ∧ ord (deadEnds out0 (stopGraph in0 out0 fuel g)) = pre ++ p :: post ∧
      p ∈ in0 ∧ (∀ q ∈ pre, q ∉ in0) ∧ p ∈ ((stopGraph in0 out0 fuel g).removeNodes pre).outPorts :=
  rmDeadEnds_error ((sameRun hord in0 out0 fuel g).2 e h)
    (fun _ hq => (List.mem_filter.1 ((hord _).mem_iff.1 hq)).1)

/-- the sequential-removal fact behind it: removing the nodes of a list one by one (in any order) is removing them
all at once -/
theorem C20_sequential_removal (g : Graph N) {ps ps' : List N} (h : ps'.Perm ps) :
    ps'.foldl (fun g p => g.removeNodes [p]) g = g.removeNodes ps := by
  rw [foldl_removeNodes, removeNodes_perm g h]

variable [LT N] [DecidableRel (α := N) (· < ·)]

/-- **C20, `load_proc_desc`**: with the dead-end sets iterated in any order, the loader accepts the same
descriptions, returns the same processor, and rejects with the same error class. -/
theorem C20_load_order_independent (ord : List N → List N) (hord : ∀ l, (ord l).Perm l) (fold : N → N) (d : Desc N) :
    (loadP ord fold d).toOption = (load fold d).toOption ∧
    (∀ p, loadP ord fold d = .ok p ↔ load fold d = .ok p) ∧
    (∀ e, loadP ord fold d = .error e → ∃ e', load fold d = .error e' ∧ e.cls = e'.cls) ∧
    (∀ e', load fold d = .error e' → ∃ e, loadP ord fold d = .error e ∧ e.cls = e'.cls) := by
  refine (loadP_agree hord fold d).cases (fun e e' h => ?_) (fun p => ⟨rfl, fun _ => Iff.rfl, nofun, nofun⟩)
  exact ⟨rfl, fun _ => ⟨nofun, nofun⟩, fun _ he => ⟨e', rfl, Except.error.inj he ▸ h⟩,
    fun _ he => ⟨e, rfl, Except.error.inj he ▸ h⟩⟩

end

/-- a `frozenset` of `ICaseString`s (`icaseSet`, hence `getAbilities`) has pairwise distinct case-folded forms -/
theorem icaseSet_fold_nodup (l : List Isa.Str) : ((Isa.icaseSet l).map lower).Nodup :=
  List.pairwise_map.2 (IsaLemmas.icaseSet_pairwise l)

/-- **C20, `load_isa`**: for capabilities with pairwise distinct folded forms, every permutation gives the same
result — the same dict (items in the same order) or the same error. The capability registries are lookup-equal
(`OrderIndep.capRegistry_get?_perm`) and `_create_isa` only looks the registry up. -/
theorem C20_isa_order_independent (isa : List (Isa.Str × Isa.Str)) {caps caps' : List Isa.Str}
    (hn : (caps.map lower).Nodup) (hp : caps'.Perm caps) : Isa.loadIsa isa caps' = Isa.loadIsa isa caps :=
  createIsa_congr (capRegistry_get?_perm hn hp) isa [] []

/-- … in particular for the set `get_abilities` returns, iterated in any order -/
theorem C20_isa_abilities_order_independent (ord : List Isa.Str → List Isa.Str) (hord : ∀ l, (ord l).Perm l)
    (isa : List (Isa.Str × Isa.Str)) (portCaps : List (List Isa.Str)) :
    loadIsaP ord isa (Isa.getAbilities portCaps) = Isa.loadIsa isa (Isa.getAbilities portCaps) :=
  C20_isa_order_independent isa (icaseSet_fold_nodup _) (hord _)

/-- same stage; loader errors of the same class, errors of the later stages equal -/
def FailAgree : Pipeline.Failure → Pipeline.Failure → Prop
  | .load e, .load e' => e.cls = e'.cls
  | .isa e, .isa e' => e = e'
  | .parse e, .parse e' => e = e'
  | .compile e, .compile e' => e = e'
  | _, _ => False

theorem FailAgree.refl (f : Pipeline.Failure) : FailAgree f f := by
  cases f <;> exact rfl

/-- **C20, pipeline**: with both set iterations in arbitrary orders the pipeline returns the same stages and the
same simulation outcome, or stops at the same stage with the same error (for the loader: the same error class). -/
theorem C20_pipeline_order_independent (ordT ordC : List Pipeline.Str → List Pipeline.Str)
    (hT : ∀ l, (ordT l).Perm l) (hC : ∀ l, (ordC l).Perm l)
    (desc : Desc Pipeline.Str) (rawIsa : List (Pipeline.Str × Pipeline.Str)) (lines : List Pipeline.Str) :
    Agree FailAgree (runP ordT ordC desc rawIsa lines) (Pipeline.run desc rawIsa lines) := by
  unfold runP Pipeline.run frontP Pipeline.front
  refine (loadP_agree hT ICase.lower desc).cases (fun _ _ h => h) (fun p => ?_)
  dsimp only
  rw [show loadIsaP ordC rawIsa (Isa.getAbilitiesProc p) = Isa.loadIsa rawIsa (Isa.getAbilitiesProc p) from
    C20_isa_abilities_order_independent ordC hC rawIsa _]
  exact Agree.refl FailAgree.refl _

/-- **C20, functions**: the model pipeline is a function of the description, the instruction set and the program
text — equal inputs give equal results (and equal printed tables). None of the model functions has state or
mutates anything: they are closed terms of function type. -/
theorem C20_functions {d d' : Desc Pipeline.Str} {i i' : List (Pipeline.Str × Pipeline.Str)} {l l' : List Pipeline.Str}
    (hd : d = d') (hi : i = i') (hl : l = l') :
    Pipeline.run d i l = Pipeline.run d' i' l' ∧ Pipeline.cliTable d i l = Pipeline.cliTable d' i' l' := by
  subst hd hi hl
  exact ⟨rfl, rfl⟩

namespace Examples

/-- `Except` has no `DecidableEq` in core; needed only to let `decide` compare results below -/
private instance exceptDecEq {ε α : Type} [DecidableEq ε] [DecidableEq α] : DecidableEq (Except ε α) := fun a b =>
  match a, b with
  | .ok x, .ok y => if h : x = y then isTrue (by rw [h]) else isFalse (fun e => h (by cases e; rfl))
  | .error x, .error y => if h : x = y then isTrue (by rw [h]) else isFalse (fun e => h (by cases e; rfl))
  | .ok _, .error _ => isFalse (fun e => by cases e)
  | .error _, .ok _ => isFalse (fun e => by cases e)

/-- a comparable view of a working graph -/
def gview (r : Except (LoadError Nat) (Graph Nat)) : Except (LoadError Nat) (List (Nat × List Nat) × List (Nat × Nat)) :=
  match r with
  | .ok g => .ok (g.nodes.map (fun n => (n.name, n.caps)), g.edges)
  | .error e => .error e

def nd (n : Nat) : GNode Nat := ⟨n, 1, [100], false, false, []⟩

/-- `1 → 2 → 3`, `1 → 4`, `2 → 5`; originally 3 was the only output port: 4 and 5 are dead ends of the first
round, none of the second (2 keeps its successor 3) -/
def gTwoDead : Graph Nat := ⟨[nd 1, nd 2, nd 3, nd 4, nd 5], [(1, 2), (2, 3), (1, 4), (2, 5)]⟩

example : gview (chkTerminals [1] [3] 6 gTwoDead) = .ok ([(1, [100]), (2, [100]), (3, [100])], [(1, 2), (2, 3)]) := by decide +kernel
/-- both orders of the dead-end set `{4, 5}` give the same pruned graph -/
example : gview (chkTerminalsP id [1] [3] 6 gTwoDead) = gview (chkTerminals [1] [3] 6 gTwoDead) := by decide +kernel
example : gview (chkTerminalsP List.reverse [1] [3] 6 gTwoDead) = gview (chkTerminals [1] [3] 6 gTwoDead) := by decide +kernel
/-- the one-at-a-time loop really is different code: it passes through an intermediate graph without 5 but with 4 -/
example : gview (rmDeadEnds [1] [5] gTwoDead) =
    .ok ([(1, [100]), (2, [100]), (3, [100]), (4, [100])], [(1, 2), (2, 3), (1, 4)]) := by decide +kernel

/-- a chain of dead ends needs two rounds: `1 → 2 → 3`, `1 → 4 → 5`, original outputs 3 and 6 (6 was removed) -/
def gChain : Graph Nat := ⟨[nd 1, nd 2, nd 3, nd 4, nd 5], [(1, 2), (2, 3), (1, 4), (4, 5)]⟩
example : gview (chkTerminalsP List.reverse [1] [3, 6] 6 gChain) =
    .ok ([(1, [100]), (2, [100]), (3, [100])], [(1, 2), (2, 3)]) := by decide +kernel
example : gview (chkTerminalsP List.reverse [1] [3, 6] 6 gChain) = gview (chkTerminals [1] [3, 6] 6 gChain) := by decide +kernel

/-- two input ports 1 and 2 that are both dead ends (their successors were removed) -/
def gTwoDeadIn : Graph Nat := ⟨[nd 1, nd 2, nd 3, nd 4], [(3, 4)]⟩

/-- `DeadInputError` in both orders, naming *different* ports: same class, different field -/
theorem ex_deadInput_names_differ :
    chkTerminals [1, 2, 3] [4, 5, 6] 5 gTwoDeadIn = .error (.deadInput 1) ∧
    gview (chkTerminalsP id [1, 2, 3] [4, 5, 6] 5 gTwoDeadIn) = .error (.deadInput 1) ∧
    gview (chkTerminalsP List.reverse [1, 2, 3] [4, 5, 6] 5 gTwoDeadIn) = .error (.deadInput 2) ∧
    (LoadError.deadInput 1 : LoadError Nat).cls = (LoadError.deadInput 2 : LoadError Nat).cls := by
  refine ⟨?_, ?_, ?_, rfl⟩
  · have : gview (chkTerminals [1, 2, 3] [4, 5, 6] 5 gTwoDeadIn) = .error (.deadInput 1) := by decide
    revert this
    cases chkTerminals [1, 2, 3] [4, 5, 6] 5 gTwoDeadIn with
    | ok g => intro h; cases h
    | error e => intro h; cases h; rfl
  · decide
  · decide

def ud (n : Nat) (caps : List Nat) (lock : Bool) : UnitD Nat := ⟨n, 1, caps, lock, lock, []⟩

/-- `1 → 2`, `1 → 3 → 5`, `1 → 4 → 6`; 5 and 6 only declare a capability nobody feeds them, so they are removed as
empty and 3, 4 become dead ends of the same round -/
def dTwoDead : Desc Nat :=
  ⟨[ud 1 [100] true, ud 2 [100] false, ud 3 [100] false, ud 4 [100] false, ud 5 [101] false, ud 6 [101] false],
   [[1, 2], [1, 3], [1, 4], [3, 5], [4, 6]]⟩

example : load id dTwoDead =
    .ok ⟨[⟨1, 1, [100], true, true, []⟩], [⟨⟨2, 1, [100], false, false, []⟩, [1]⟩], [], []⟩ := by decide +kernel
example : loadP List.reverse id dTwoDead = load id dTwoDead := by decide +kernel
example : loadP id id dTwoDead = load id dTwoDead := by decide +kernel

/-- input ports 1 and 2 feed only units that lose all capabilities: both become dead input ports -/
def dTwoDeadIn : Desc Nat :=
  ⟨[ud 1 [100] true, ud 2 [100] true, ud 3 [101] false, ud 4 [101] false], [[1, 3], [2, 4]]⟩

example : load id dTwoDeadIn = .error (.deadInput 1) := by decide +kernel
example : loadP List.reverse id dTwoDeadIn = .error (.deadInput 2) := by decide +kernel
example : (match loadP List.reverse id dTwoDeadIn, load id dTwoDeadIn with
    | .error e, .error e' => decide (e.cls = e'.cls ∧ e ≠ e') | _, _ => false) = true := by decide +kernel

example : (loadP List.reverse id dTwoDead).toOption = (load id dTwoDead).toOption :=
  (C20_load_order_independent List.reverse (fun l => List.reverse_perm l) id dTwoDead).1

def s (x : String) : Isa.Str := x.toList

example : Isa.loadIsa [(s "add", s "alu"), (s "LW", s "Mem")] [s "ALU", s "MEM"] =
    .ok [(s "ADD", s "ALU"), (s "LW", s "MEM")] := by decide +kernel
example : Isa.loadIsa [(s "add", s "alu"), (s "LW", s "Mem")] [s "MEM", s "ALU"] =
    Isa.loadIsa [(s "add", s "alu"), (s "LW", s "Mem")] [s "ALU", s "MEM"] := by decide +kernel
example : Isa.loadIsa [(s "add", s "alu"), (s "mul", s "fpu")] [s "MEM", s "ALU"] = .error (.undefCap (s "fpu")) ∧
    Isa.loadIsa [(s "add", s "alu"), (s "mul", s "fpu")] [s "ALU", s "MEM"] = .error (.undefCap (s "fpu")) := by decide +kernel
/-- `get_abilities` keeps one spelling per folded form … -/
example : Isa.getAbilities [[s "ALU", s "MEM"], [s "alu"]] = [s "ALU", s "MEM"] := by decide +kernel
/-- … which is what makes the order irrelevant: for a *list* with two spellings of one capability (not a set of
`ICaseString`s) the order would matter — the hypothesis of `C20_isa_order_independent` cannot be dropped -/
theorem ex_isa_hypothesis_needed :
    Isa.loadIsa [(s "add", s "alu")] [s "ALU", s "Alu"] ≠ Isa.loadIsa [(s "add", s "alu")] [s "Alu", s "ALU"] := by decide

end Examples

end C20
end ProcSim
