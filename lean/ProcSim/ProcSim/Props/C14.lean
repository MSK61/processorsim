import ProcSim.Lemmas.Program
/-!
# C14 — program text parses to the written instructions; syntax errors are located

`renderProgram is ws tail` is the text of the instruction list `is` written with the whitespace choices `ws`
(blank lines before each line, blanks before the mnemonic, between mnemonic and operands, around every comma and
at the end of the line — any of the ASCII blanks of `str.isspace`, line terminators included) followed by the blank
lines `tail`. `expected is ws` is what that text *means*: per instruction the mnemonic, the first operand, the
remaining operands (registers in the spelling of their first occurrence in the text) and the 1-based physical line
number; or, for the first line without operand / with an empty operand, the syntax error with line, mnemonic and
operand position.

* `C14_parse_render`: the model of `read_program` returns exactly that, for **every** instruction list whose
  mnemonics are non-empty and blank-free and whose operands are empty or non-empty blank- and comma-free tokens
  (`instrOK`), **every** whitespace choice (`wsOK`: blanks only, non-empty separator) and every blank tail.
  No further restriction on the token alphabet is needed.
* `C14_syntax_errors`: every single-fault corruption of a fault-free list is answered with the error of the
  corrupted instruction (`faultError`); the three fault kinds are spelled out as corollaries.

Both follow from `ProgramLemmas.readProgram_render`: the parser's answer on a rendered text is `expected`, with the
sources of every instruction as a sorted set.
-/
namespace ProcSim
open Program Spec.Text ProgramLemmas

/-- **C14 (round trip).** Parsing the rendered text succeeds iff the written list is free of faults, and then
returns the written instructions line by line (`Matches`: mnemonic, destination in first spelling, sources = the
strictly increasing tuple of the *set* of remaining operands in first spelling, 1-based physical line number with
blank lines counted); otherwise it fails with the very error of the first faulty line (same constructor ⇒ same
line, mnemonic, operand position and message). -/
theorem C14_parse_render (is : List SrcInstr) (ws : List LineWs) (tail : List (List Char))
    (his : ∀ i ∈ is, instrOK i = true) (hws : ∀ w ∈ ws, wsOK w = true) (htail : ∀ l ∈ tail, blankB l = true) :
    match Program.readProgram (renderProgram is ws tail), expected is ws with
    | .ok got, .ok want => Forall2 Matches want got
    | .error e, .error want => e = want
    | _, _ => False := by
  rw [readProgram_render is ws tail his hws htail]
  cases expected is ws with
  | error e => exact rfl
  | ok want => exact forall2_matches_toProg want

/-- **C14 (syntax errors).** Every single-fault corruption `applyFault f is` of a fault-free list (mnemonics fine,
at least one operand per line, all operands tokens), in every rendering, is rejected with `faultError f is ws`:
the error carries the physical line `lineOf ws j` and the mnemonic of the corrupted instruction `j`, and
* `.noOperands` when all operands were removed or the only operand was emptied,
* `.emptyOperand … k` with the position `k` of the emptied / inserted empty operand otherwise. -/
theorem C14_syntax_errors (f : Fault) (is : List SrcInstr) (ws : List LineWs) (tail : List (List Char))
    (want : ParseError)
    (his : ∀ i ∈ is, faultFree i = true) (hws : ∀ w ∈ ws, wsOK w = true) (htail : ∀ l ∈ tail, blankB l = true)
    (hf : faultError f is ws = some want) :
    Program.readProgram (renderProgram (applyFault f is) ws tail) = .error want := by
  rw [readProgram_render _ ws tail (instrOK_applyFault f is his) hws htail, expected_applyFault f is ws want his hf]
  rfl

/-- all operands of instruction `j` removed: "No operands provided" at its line, with its mnemonic -/
theorem C14_syntax_errors_noOps (j : Nat) (i : SrcInstr) (is : List SrcInstr) (ws : List LineWs)
    (tail : List (List Char))
    (his : ∀ i ∈ is, faultFree i = true) (hws : ∀ w ∈ ws, wsOK w = true) (htail : ∀ l ∈ tail, blankB l = true)
    (hj : is[j]? = some i) :
    Program.readProgram (renderProgram (applyFault (.noOps j) is) ws tail) =
      .error (.noOperands (lineOf ws j) i.name) :=
  C14_syntax_errors (.noOps j) is ws tail _ his hws htail (by simp [faultError, hj])

/-- operand `k` (1-based) of instruction `j` emptied: "Operand k empty" at its line, with its mnemonic — unless
it was the only operand, which leaves the bare mnemonic: "No operands provided" -/
theorem C14_syntax_errors_emptyOp (j k : Nat) (i : SrcInstr) (is : List SrcInstr) (ws : List LineWs)
    (tail : List (List Char))
    (his : ∀ i ∈ is, faultFree i = true) (hws : ∀ w ∈ ws, wsOK w = true) (htail : ∀ l ∈ tail, blankB l = true)
    (hj : is[j]? = some i) (hk1 : 1 ≤ k) (hk2 : k ≤ i.ops.length) :
    Program.readProgram (renderProgram (applyFault (.emptyOp j k) is) ws tail) =
      .error (if i.ops.length = 1 then .noOperands (lineOf ws j) i.name
              else .emptyOperand (lineOf ws j) i.name k) :=
  C14_syntax_errors (.emptyOp j k) is ws tail _ his hws htail (by simp [faultError, hj, hk1, hk2])

/-- an empty operand inserted at position `k` (1 = leading comma, `len + 1` = trailing comma) of instruction `j`:
"Operand k empty" at its line, with its mnemonic -/
theorem C14_syntax_errors_extraEmpty (j k : Nat) (i : SrcInstr) (is : List SrcInstr) (ws : List LineWs)
    (tail : List (List Char))
    (his : ∀ i ∈ is, faultFree i = true) (hws : ∀ w ∈ ws, wsOK w = true) (htail : ∀ l ∈ tail, blankB l = true)
    (hj : is[j]? = some i) (hk1 : 1 ≤ k) (hk2 : k ≤ i.ops.length + 1) :
    Program.readProgram (renderProgram (applyFault (.extraEmpty j k) is) ws tail) =
      .error (.emptyOperand (lineOf ws j) i.name k) :=
  C14_syntax_errors (.extraEmpty j k) is ws tail _ his hws htail (by
    have : min (max k 1) (i.ops.length + 1) = k := by omega
    simp [faultError, hj, this])

theorem checkC14_iff (is : List SrcInstr) (ws : List LineWs) (out : ParseObs) :
    checkC14 is ws out = none ↔ C14_Holds is ws out := by
  unfold checkC14 C14_Holds
  cases expected is ws with
  | ok want =>
    cases out with
    | ok got => exact checkInstrs_iff want 0 got
    | err e => simp
    | other c => simp
  | error want =>
    cases out with
    | ok got => simp
    | other c => simp
    | err e =>
      cases want with
      | noOperands l i => simp only [ErrMatches, ite_some_eq_none, bne_eq_false_iff_eq]
      | emptyOperand l i k =>
        simp only [ErrMatches, ite_some_eq_none, bne_eq_false_iff_eq, ite_none_else_some]

/-! ## Non-vacuity, on the text

```
<empty line>
␠⇥
⇥ADD⇥␠R1␠,⇥R2,␠r3␠⏎
⏎
ld␠r1⇥,R3␍⏎
MUL␠R4,r1␠␠,R1,⇥r2
<empty line>
⇥
```
-/
section NonVacuity

/-- `Except` has no `DecidableEq` in core; needed only to let `decide` compare parser results below -/
private instance exceptDecEq {ε α : Type} [DecidableEq ε] [DecidableEq α] : DecidableEq (Except ε α) := fun a b =>
  match a, b with
  | .ok x, .ok y => if h : x = y then isTrue (by rw [h]) else isFalse (fun e => h (by cases e; rfl))
  | .error x, .error y => if h : x = y then isTrue (by rw [h]) else isFalse (fun e => h (by cases e; rfl))
  | .ok _, .error _ => isFalse (fun e => by cases e)
  | .error _, .ok _ => isFalse (fun e => by cases e)

private def exProg : List SrcInstr :=
  [⟨['A', 'D', 'D'], [['R', '1'], ['R', '2'], ['r', '3']]⟩,
   ⟨['l', 'd'], [['r', '1'], ['R', '3']]⟩,
   ⟨['M', 'U', 'L'], [['R', '4'], ['r', '1'], ['R', '1'], ['r', '2']]⟩]

private def exWs : List LineWs :=
  [{ blanks := [[], [' ', '\t']], pre := ['\t'], sep := ['\t', ' '], commas := [([' '], ['\t']), ([], [' '])],
     post := [' ', '\n'] },
   { blanks := [['\n']], commas := [(['\t'], [])], post := ['\r', '\n'] },
   { commas := [([], []), ([' ', ' '], []), ([], ['\t'])] }]

private def exTail : List (List Char) := [[], ['\t']]

example : (∀ i ∈ exProg, instrOK i = true) ∧ (∀ i ∈ exProg, faultFree i = true) ∧
    (∀ w ∈ exWs, wsOK w = true) ∧ (∀ l ∈ exTail, blankB l = true) := by decide +kernel

example : renderProgram exProg exWs exTail =
    [[], [' ', '\t'],
     ['\t', 'A', 'D', 'D', '\t', ' ', 'R', '1', ' ', ',', '\t', 'R', '2', ',', ' ', 'r', '3', ' ', '\n'],
     ['\n'],
     ['l', 'd', ' ', 'r', '1', '\t', ',', 'R', '3', '\r', '\n'],
     ['M', 'U', 'L', ' ', 'R', '4', ',', 'r', '1', ' ', ' ', ',', 'R', '1', ',', '\t', 'r', '2'],
     [], ['\t']] := by decide +kernel

private theorem exExpected : expected exProg exWs =
    .ok [⟨['A', 'D', 'D'], ['R', '1'], [['R', '2'], ['r', '3']], 3⟩,
         ⟨['l', 'd'], ['R', '1'], [['r', '3']], 5⟩,
         ⟨['M', 'U', 'L'], ['R', '4'], [['R', '1'], ['R', '1'], ['R', '2']], 6⟩] := by decide +kernel

private theorem exParsed : Program.readProgram (renderProgram exProg exWs exTail) =
    .ok [⟨[['R', '2'], ['r', '3']], ['R', '1'], ['A', 'D', 'D'], 3⟩,
         ⟨[['r', '3']], ['R', '1'], ['l', 'd'], 5⟩,
         ⟨[['R', '1'], ['R', '2']], ['R', '4'], ['M', 'U', 'L'], 6⟩] := by decide +kernel

/-- its meaning: lines 3, 5, 6; `r1`/`R3` are reported in their first spellings `R1`/`r3` -/
example : expected exProg exWs =
    .ok [⟨['A', 'D', 'D'], ['R', '1'], [['R', '2'], ['r', '3']], 3⟩,
         ⟨['l', 'd'], ['R', '1'], [['r', '3']], 5⟩,
         ⟨['M', 'U', 'L'], ['R', '4'], [['R', '1'], ['R', '1'], ['R', '2']], 6⟩] := exExpected

/-- the parser's answer: sources as sorted sets (`R1` once) -/
example : Program.readProgram (renderProgram exProg exWs exTail) =
    .ok [⟨[['R', '2'], ['r', '3']], ['R', '1'], ['A', 'D', 'D'], 3⟩,
         ⟨[['r', '3']], ['R', '1'], ['l', 'd'], 5⟩,
         ⟨[['R', '1'], ['R', '2']], ['R', '4'], ['M', 'U', 'L'], 6⟩] := exParsed

/-- each fault kind: what `faultError` demands … -/
example : faultError (.noOps 1) exProg exWs = some (.noOperands 5 ['l', 'd']) ∧
    faultError (.emptyOp 2 3) exProg exWs = some (.emptyOperand 6 ['M', 'U', 'L'] 3) ∧
    faultError (.extraEmpty 0 1) exProg exWs = some (.emptyOperand 3 ['A', 'D', 'D'] 1) ∧
    faultError (.extraEmpty 0 4) exProg exWs = some (.emptyOperand 3 ['A', 'D', 'D'] 4) ∧
    faultError (.emptyOp 0 1) [⟨['j'], [['R', '7']]⟩] [] = some (.noOperands 1 ['j']) ∧
    faultError (.emptyOp 0 2) [⟨['j'], [['R', '7']]⟩] [] = none := by decide +kernel

/-- … is what the parser answers on the corrupted texts (`ld`, `MUL R4,r1  ,,⇥r2`, `ADD , R1 ,⇥R2…`,
`ADD R1 ,⇥R2, r3,`, `j`) -/
example : Program.readProgram (renderProgram (applyFault (.noOps 1) exProg) exWs exTail) =
      .error (.noOperands 5 ['l', 'd']) ∧
    Program.readProgram (renderProgram (applyFault (.emptyOp 2 3) exProg) exWs exTail) =
      .error (.emptyOperand 6 ['M', 'U', 'L'] 3) ∧
    Program.readProgram (renderProgram (applyFault (.extraEmpty 0 1) exProg) exWs exTail) =
      .error (.emptyOperand 3 ['A', 'D', 'D'] 1) ∧
    Program.readProgram (renderProgram (applyFault (.extraEmpty 0 4) exProg) exWs exTail) =
      .error (.emptyOperand 3 ['A', 'D', 'D'] 4) ∧
    Program.readProgram (renderProgram (applyFault (.emptyOp 0 1) [⟨['j'], [['R', '7']]⟩]) [] []) =
      .error (.noOperands 1 ['j']) := by decide +kernel

example : Forall2 Matches
    [⟨['A', 'D', 'D'], ['R', '1'], [['R', '2'], ['r', '3']], 3⟩,
     ⟨['l', 'd'], ['R', '1'], [['r', '3']], 5⟩,
     ⟨['M', 'U', 'L'], ['R', '4'], [['R', '1'], ['R', '1'], ['R', '2']], 6⟩]
    [⟨[['R', '2'], ['r', '3']], ['R', '1'], ['A', 'D', 'D'], 3⟩,
     ⟨[['r', '3']], ['R', '1'], ['l', 'd'], 5⟩,
     ⟨[['R', '1'], ['R', '2']], ['R', '4'], ['M', 'U', 'L'], 6⟩] := by
  have h := C14_parse_render exProg exWs exTail (by decide +kernel) (by decide +kernel) (by decide +kernel)
  rw [exParsed, exExpected] at h
  exact h

end NonVacuity

end ProcSim
