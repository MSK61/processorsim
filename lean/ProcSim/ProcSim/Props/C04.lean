import ProcSim.Lemmas.SimCore
/-!
# C04 — unit width never exceeded

In every cycle of every diagram `simulate` hands out (returned, or carried by the stall error), every unit hosts at
most `width` instructions. The only hypothesis needed is that unit names are unique (part of `wfProc`): the
record is keyed by unit *name*, so two units sharing a name but not a width could not both be respected.

Proof: `RowBase.width` is part of the invariant `BaseInv` (`Lemmas/SimCore.lean`): the fill loop and `tryPorts`
test `length = width` before every append; flushing, removing moved instructions and relabelling never grow a unit.
-/
namespace ProcSim
open Spec

attribute [local implicit_reducible] AMap

variable {N : Type} [DecidableEq N]

/-- C04, readable form: in every cycle every unit hosts at most `width` instructions (cycles beyond the end of the
diagram read as the empty record). -/
def C04_Holds (p : Proc N) (tbl : List (Util N)) : Prop :=
  ∀ t u, u ∈ p.allUnits → ((tbl.getD t ([] : List (N × List HI))).get u.name).length ≤ u.width

theorem C04_ok_iff (p : Proc N) (prog : List (Instr N)) (tbl : List (Util N)) (stalled : Bool) :
    (Spec.C04 (ctx p prog tbl stalled)).ok = true ↔ C04_Holds p tbl := by
  simp only [Spec.C04, Clauses.ok_cons, Clauses.ok_nil, and_true, List.all_eq_true, List.mem_range,
    Ctx.T, Ctx.units, Ctx.occ, Ctx.row, ctx, C04_Holds]
  constructor
  · intro h t u hu
    by_cases ht : t < tbl.length
    · exact of_decide_eq_true (h t ht u hu)
    · rw [List.getD_eq_getElem?_getD, List.getElem?_eq_none (by omega)]
      simp
  · intro h t _ u hu
    exact decide_eq_true (h t u hu)

variable [LT N] [DecidableRel (α := N) (· < ·)]

/-- **C04 (readable form)**, from unique unit names only. -/
theorem C04_width'_of_nodup (p : Proc N) (prog : List (Instr N)) (tbl : List (Util N)) (stalled : Bool)
    (hn : (p.allUnits.map (·.name)).Nodup) (h : Diagram p prog tbl stalled) : C04_Holds p tbl := by
  obtain ⟨e, _, hrows⟩ := Diagram_rowBase hn h
  intro t u hu
  exact (hrows t).width u hu

/-- **C04**, from unique unit names only. -/
theorem C04_width_of_nodup (p : Proc N) (prog : List (Instr N)) (tbl : List (Util N)) (stalled : Bool)
    (hn : (p.allUnits.map (·.name)).Nodup) (h : Diagram p prog tbl stalled) :
    (Spec.C04 (ctx p prog tbl stalled)).ok = true :=
  (C04_ok_iff p prog tbl stalled).2 (C04_width'_of_nodup p prog tbl stalled hn h)

/-- **C04.** For a well-formed processor, every diagram of `simulate` passes the C04 checker. -/
theorem C04_width (p : Proc N) (prog : List (Instr N)) (tbl : List (Util N)) (stalled : Bool)
    (hwf : wfProc p = true) (h : Diagram p prog tbl stalled) :
    (Spec.C04 (ctx p prog tbl stalled)).ok = true :=
  C04_width_of_nodup p prog tbl stalled (wfProc_nodup_names hwf) h

/-- **C04 (readable form)**: `C04_Holds p tbl`, spelt out. -/
theorem C04_width' (p : Proc N) (prog : List (Instr N)) (tbl : List (Util N)) (stalled : Bool)
    (hwf : wfProc p = true) (h : Diagram p prog tbl stalled) :
    ∀ t u, u ∈ p.allUnits → ((tbl.getD t ([] : List (N × List HI))).get u.name).length ≤ u.width :=
  C04_width'_of_nodup p prog tbl stalled (wfProc_nodup_names hwf) h

/-! ## Non-vacuity

A two-stage processor over `Nat` names: input port `0` (width 2, holds the read lock) feeding output port `1`
(width 1, holds the write lock), capability `7`; three independent instructions. The processor is well-formed, the
simulation returns a diagram, and in its first cycle the input port is filled to its width 2 (so the bound of C04 is
attained, not just respected). -/
namespace C04Example

def inP : UnitM Nat := ⟨0, 2, [7], true, false, []⟩
def outP : UnitM Nat := ⟨1, 1, [7], false, true, []⟩
def proc : Proc Nat := { inPorts := [inP], outPorts := [⟨outP, [0]⟩], inOut := [], internal := [] }
def prog : List (Instr Nat) := [⟨[10], 11, 7⟩, ⟨[12], 13, 7⟩, ⟨[14], 15, 7⟩]

example : wfProc proc = true := by decide +kernel

example : (match simulate proc prog with
    | .done tbl => tbl.length == 4 && ((tbl.getD 0 ([] : List (Nat × List HI))).get 0).length == inP.width
    | _ => false) = true := by decide +kernel

def isDone : Outcome Nat → Bool
  | .done _ => true
  | _ => false

example : ∃ tbl, Diagram proc prog tbl false ∧ (Spec.C04 (ctx proc prog tbl false)).ok = true := by
  have hd : isDone (simulate proc prog) = true := by decide +kernel
  cases h : simulate proc prog with
  | done tbl => exact ⟨tbl, Or.inl ⟨rfl, h⟩, C04_width proc prog tbl false (by decide +kernel) (Or.inl ⟨rfl, h⟩)⟩
  | stall tbl => rw [h] at hd; cases hd
  | fault f => rw [h] at hd; cases hd

end C04Example

end ProcSim
