import ProcSim.Lemmas.TerminationBridge
import ProcSim.Props.C02
/-!
# C08 — the simulation always ends; a stall error means genuine dead-lock

"For every program and well-formed processor the simulator finishes within instructions × (3 × units + 1) + 1
cycles, either returning a diagram in which every instruction retires or raising a stall error; no other exception
escapes. A stall error is raised exactly when nothing can progress from the last recorded cycle, and it carries the
diagram up to that frozen cycle."

The bound rests on a rank (`Lemmas/Termination.lean`): `0` before issue, `3·pos(unit) + 1/2/3` while hosted with
label `D/U/S` (`pos` increases along every connection), `3·|units| + 1` once retired; no rank ever decreases, and in a
productive cycle (new record ≠ old record as per-unit multisets) some rank strictly increases. The clauses about
data-stalled instructions come from C02, hence the hypothesis `Hazards.ProgOK prog` (source tuples are duplicate-free,
as `HwInstruction.sources` always is).
-/
namespace ProcSim
open Spec Term

attribute [local implicit_reducible] AMap

variable {N : Type} [DecidableEq N] [LT N] [DecidableRel (α := N) (· < ·)]

/-- **C08, the clause "finishes within instructions x (3 x units + 1) + 1 cycles" (readable form).** Every diagram
`simulate` hands out has at most `cycleBound` rows, and a stall diagram one row less (the stall is detected in a cycle
of its own, which is not recorded). No hypothesis on `p`. -/
theorem C08_bound (p : Proc N) (prog : List (Instr N)) (tbl : List (Util N)) (stalled : Bool)
    (h : Diagram p prog tbl stalled) :
    tbl.length + (if stalled then 1 else 0) ≤ prog.length * (3 * p.allUnits.length + 1) + 1 :=
  simulate_length h

theorem C08_bound_clause (p : Proc N) (prog : List (Instr N)) (tbl : List (Util N)) (stalled : Bool)
    (h : Diagram p prog tbl stalled) :
    ((Spec.C08 (ctx p prog tbl stalled)).getD 0 ("", false)).2 = true := by
  simp only [Spec.C08, List.getD_cons_zero, Ctx.T, Ctx.n, Ctx.units, ctx]
  exact decide_eq_true (C08_bound p prog tbl stalled h)

/-- **C08, termination.** For a well-formed processor the run is over — returned diagram, stall error or another
fault — within `cycleBound p prog = instructions × (3 × units + 1) + 1` cycles: the fuel of `simulate` never runs
out. -/
theorem C08_no_fuel_fault (p : Proc N) (prog : List (Instr N)) (hwf : wfProc p = true) :
    simulate p prog ≠ .fault .fuel :=
  simulate_no_fuel prog (structOK_of_wfProc hwf)

theorem C08_outcome (p : Proc N) (prog : List (Instr N)) (hwf : wfProc p = true) :
    (∃ tbl, simulate p prog = .done tbl) ∨ (∃ tbl, simulate p prog = .stall tbl) ∨
    (∃ f, f ≠ .fuel ∧ simulate p prog = .fault f) := by
  cases h : simulate p prog with
  | done tbl => exact Or.inl ⟨tbl, rfl⟩
  | stall tbl => exact Or.inr (Or.inl ⟨tbl, rfl⟩)
  | fault f =>
    refine Or.inr (Or.inr ⟨f, ?_, rfl⟩)
    intro e; rw [e] at h
    exact C08_no_fuel_fault p prog hwf h

/-- No `KeyError` on a unit name, no `IndexError` on the program: `name_unit_map[unit]` and `program[i]` never fail
(`BaseInv`). -/
theorem C08_no_noUnit_badIndex (p : Proc N) (prog : List (Instr N)) (hwf : wfProc p = true) :
    simulate p prog ≠ .fault .noUnit ∧ simulate p prog ≠ .fault .badIndex := by
  constructor <;> intro h <;> rcases simulate_fault_cases prog (structOK_of_wfProc hwf) h with e | e <;> cases e

theorem C08_fault_cases (p : Proc N) (prog : List (Instr N)) (hwf : wfProc p = true) {f : Fault}
    (h : simulate p prog = .fault f) : f = .queueEmpty ∨ f = .badDequeue :=
  simulate_fault_cases prog (structOK_of_wfProc hwf) h

theorem C08_no_fault_of_queue_ok (p : Proc N) (prog : List (Instr N)) (hwf : wfProc p = true)
    (hq : simulate p prog ≠ .fault .queueEmpty ∧ simulate p prog ≠ .fault .badDequeue) :
    ∃ tbl, simulate p prog = .done tbl ∨ simulate p prog = .stall tbl := by
  cases h : simulate p prog with
  | done tbl => exact ⟨tbl, Or.inl rfl⟩
  | stall tbl => exact ⟨tbl, Or.inr rfl⟩
  | fault f =>
    exfalso
    rcases simulate_fault_cases prog (structOK_of_wfProc hwf) h with e | e
    · rw [e] at h; exact hq.1 h
    · rw [e] at h; exact hq.2 h

/-! The two clauses of `Spec.C08` about frozen rows. `Spec.frozen` is phrased on the diagram;
`Lemmas/Termination.lean` reads it through the run: for the reachable state whose table is the first `k` rows, `frozen`
of the last of these rows says `Term.FrozenRec` of the state's record and issue count (`Term.frozen_prefix_iff`), and
`FrozenRec` records are exactly the fixed points of the cycle (`Term.frozenRec_of_fixed`, `Term.fixed_of_frozenRec`).
What `frozen` says about data-stalled instructions (`mustWait`) is the business of C02:

* "a stall error is raised only from a frozen cycle" needs exactness of data stalls for the **unrecorded**
  stall-detecting cycle (`Term.FrozenDClause`), which no statement about the recorded rows (such as `Spec.C02`) can
  provide; `Term.frozenDClause_holds` has it from the register-queue invariant;
* "no earlier recorded cycle was frozen" needs exactness on the recorded rows only, i.e. `C02_data_stall_exact`. -/

/-- **stall ⇒ frozen, on the run.** In the state from which the stall error is raised nobody is unstalled, every `S`
is away from the output boundary with all supporting successors full, every `D` is refused again by the register
queues, and the next instruction (if any) finds every supporting input port full. -/
theorem C08_stall_frozenRec (p : Proc N) (prog : List (Instr N)) (tbl : List (Util N))
    (hwf : wfProc p = true) (h : Diagram p prog tbl true) :
    ∃ s, Reach p prog s ∧ tbl = s.table.reverse ∧ runCycle p prog s = .ok none ∧
      FrozenRec p prog s.util s.entered (fun u x => labelOf prog s.queues u (s.util.get u.name) x.idx = .D) := by
  obtain ⟨s, hs, ht, hr, _⟩ := Diagram_reach h
  have hst := structOK_of_wfProc hwf
  exact ⟨s, hs, ht, hr rfl, frozenRec_of_fixed hst (hs.termInv hst) (hr rfl)⟩

/-- **frozen ⇒ stall, on the run.** A reachable state whose record is frozen — `D` clause: the relabelled record does
not show the instruction unstalled — makes no productive cycle. -/
theorem C08_frozenRec_stalls (p : Proc N) (prog : List (Instr N)) (hwf : wfProc p = true) {s s' : SimState N}
    (hs : Reach p prog s) (hr : runCycle p prog s = .ok (some s')) :
    ¬ FrozenRec p prog s.util s.entered (fun u x => ∀ l, (⟨x.idx, l⟩ : HI) ∈ s'.util.get u.name → l ≠ .U) := by
  intro hf
  obtain ⟨lab, qs, hlab, _, hb, e⟩ := runCycle_eq_some hr
  have : s'.util = lab.1 := by rw [e]
  rw [this] at hf
  have hst := structOK_of_wfProc hwf
  rw [fixed_of_frozenRec hst (hs.termInv hst) hlab hf] at hb
  cases hb

/-- **C08, no exception other than the stall error.** For a well-formed processor and a program with duplicate-free
source tuples the run returns a diagram or raises the stall error. -/
theorem C08_no_fault (p : Proc N) (prog : List (Instr N)) (hwf : wfProc p = true) (hprog : Hazards.ProgOK prog) :
    ∃ tbl, simulate p prog = .done tbl ∨ simulate p prog = .stall tbl :=
  C08_no_fault_of_queue_ok p prog hwf (Hazards.no_queue_fault hwf hprog)

/-- **C08, the clause "a stall error is raised only from a frozen cycle".** The diagram the stall error carries ends
in a frozen row (if it has no row at all, the empty record is frozen). -/
theorem C08_stall_frozen (p : Proc N) (prog : List (Instr N)) (tbl : List (Util N)) (stalled : Bool)
    (hwf : wfProc p = true) (hprog : Hazards.ProgOK prog) (h : Diagram p prog tbl stalled) :
    ((Spec.C08 (ctx p prog tbl stalled)).getD 1 ("", false)).2 = true := by
  simp only [Spec.C08, List.getD_cons_succ, List.getD_cons_zero, Bool.or_eq_true, Bool.not_eq_true']
  cases stalled with
  | false => exact Or.inl rfl
  | true => exact Or.inr (stall_frozen (structOK_of_wfProc hwf) (frozenDClause_holds hwf hprog) h)

/-- **C08, the clause "no earlier recorded cycle was frozen".** The row before any recorded cycle (the empty
record before the first) is not frozen. -/
theorem C08_no_earlier_frozen (p : Proc N) (prog : List (Instr N)) (tbl : List (Util N)) (stalled : Bool)
    (hwf : wfProc p = true) (hprog : Hazards.ProgOK prog) (h : Diagram p prog tbl stalled) :
    ((Spec.C08 (ctx p prog tbl stalled)).getD 2 ("", false)).2 = true := by
  have hC := DExact_of_C02 _ (C02_data_stall_exact p prog tbl stalled hwf hprog h)
  simp only [Spec.C08, List.getD_cons_succ, List.getD_cons_zero, Bool.and_eq_true, Bool.or_eq_true,
    Bool.not_eq_true', List.all_eq_true, List.mem_range, beq_iff_eq]
  constructor
  · by_cases hT : (ctx p prog tbl stalled).T = 0
    · exact Or.inl (Or.inr hT)
    · right
      have : 0 < tbl.length := Nat.pos_of_ne_zero hT
      exact not_frozen_before (structOK_of_wfProc hwf) h hC this
  · intro t ht
    have ht' : t + 1 < tbl.length := by
      have : (ctx p prog tbl stalled).T = tbl.length := rfl
      omega
    have := not_frozen_before (structOK_of_wfProc hwf) h hC ht'
    rwa [show prevIdx (t + 1) = some t from rfl] at this

/-- **C08.** For a well-formed processor and a program with duplicate-free source tuples, every diagram `simulate`
hands out — returned, or carried by the stall error — passes the C08 checker: it has at most
`instructions × (3 × units + 1) + 1` rows (one less if stalled), a stall diagram ends in a frozen row, and no
recorded cycle started from a frozen row. -/
theorem C08_genuine_deadlock (p : Proc N) (prog : List (Instr N)) (tbl : List (Util N)) (stalled : Bool)
    (hwf : wfProc p = true) (hprog : Hazards.ProgOK prog) (h : Diagram p prog tbl stalled) :
    (Spec.C08 (ctx p prog tbl stalled)).ok = true := by
  have h1 := C08_bound_clause p prog tbl stalled h
  have h2 := C08_stall_frozen p prog tbl stalled hwf hprog h
  have h3 := C08_no_earlier_frozen p prog tbl stalled hwf hprog h
  simp only [Spec.C08, List.getD_cons_succ, List.getD_cons_zero] at h1 h2 h3
  simp only [Spec.C08, Clauses.ok_cons, Clauses.ok_nil, and_true]
  exact ⟨h1, h2, h3⟩

/-! Non-vacuity. Input port `0` (width 1, capabilities `7` and `8`, both locks) feeding output port `1` (width 1, capability `7`).
Capability `8` dead-ends in unit `0` (the route `[0]` still carries exactly one read and one write lock, so the
processor is well-formed). An instruction of capability `7` retires; one of capability `8` can never leave unit `0`:
`simulate` raises the stall error. -/
namespace C08Example

def inP : UnitM Nat := ⟨0, 1, [7, 8], true, true, []⟩
def outP : UnitM Nat := ⟨1, 1, [7], false, false, []⟩
def proc : Proc Nat := { inPorts := [inP], outPorts := [⟨outP, [0]⟩], inOut := [], internal := [] }
def progOk : List (Instr Nat) := [⟨[10], 11, 7⟩, ⟨[11], 12, 7⟩]
def progStall : List (Instr Nat) := [⟨[10], 11, 7⟩, ⟨[10], 11, 8⟩, ⟨[10], 11, 7⟩]

example : wfProc proc = true := by decide +kernel

def kind : Outcome Nat → Nat × Nat
  | .done tbl => (0, tbl.length)
  | .stall tbl => (1, tbl.length)
  | .fault _ => (2, 0)

/-- the first program completes … -/
example : kind (simulate proc progOk) = (0, 3) := by decide +kernel
/-- … the second one stalls: the instruction of capability `8` sits in the input port for ever and blocks the third -/
example : kind (simulate proc progStall) = (1, 3) := by decide +kernel
example : cycleBound proc progStall = 22 := by decide +kernel

end C08Example

/-! A stall with a data-stalled instruction in the frozen row (a dead-locking overtake): input ports `0` (capability
`7`) and `2` (capability `8`), internal unit `1` (capability `7`, fed by `0`), output port `3` (width 1, both
capabilities, both locks, fed by `1` and `2`). Instruction 1 (capability `8`) reads the register instruction 0
(capability `7`) writes; it overtakes instruction 0, waits in unit `3` for ever (`D`), and keeps instruction 0 out
(`S` in unit `1`). The stall diagram passes the whole C08 checker (and C02's). -/
namespace C08Example2

def i7 : UnitM Nat := ⟨0, 1, [7], false, false, []⟩
def m1 : UnitM Nat := ⟨1, 1, [7], false, false, []⟩
def i8 : UnitM Nat := ⟨2, 1, [8], false, false, []⟩
def w : UnitM Nat := ⟨3, 1, [7, 8], true, true, []⟩
def proc : Proc Nat := { inPorts := [i7, i8], outPorts := [⟨w, [1, 2]⟩], inOut := [], internal := [⟨m1, [0]⟩] }
def prog : List (Instr Nat) := [⟨[10], 11, 7⟩, ⟨[11], 12, 8⟩]

example : wfProc proc = true := by decide +kernel

/-- three recorded cycles, then the stall error; the last row holds instruction 1 `D` in unit `3` and instruction 0 `S`
in unit `1` -/
example : (match simulate proc prog with
    | .stall tbl => tbl.length == 3 &&
        (tbl.getD 2 ([] : List (Nat × List HI))).get 3 == [⟨1, .D⟩] &&
        (tbl.getD 2 ([] : List (Nat × List HI))).get 1 == [⟨0, .S⟩] &&
        (Spec.C08 (ctx proc prog tbl true)).ok && (Spec.C02 (ctx proc prog tbl true)).ok
    | _ => false) = true := by decide +kernel

/-- the hypotheses of `C08_genuine_deadlock` are satisfiable and the theorem applies to this stall diagram -/
example : ∃ tbl, Diagram proc prog tbl true ∧ (Spec.C08 (ctx proc prog tbl true)).ok = true := by
  have hk : C08Example.kind (simulate proc prog) = (1, 3) := by decide +kernel
  cases h : simulate proc prog with
  | stall tbl =>
    exact ⟨tbl, Or.inr ⟨rfl, h⟩,
      C08_genuine_deadlock proc prog tbl true (by decide +kernel) ((Hazards.progOK_iff prog).1 (by decide +kernel)) (Or.inr ⟨rfl, h⟩)⟩
  | done tbl => rw [h] at hk; cases hk
  | fault f => rw [h] at hk; cases hk

end C08Example2

end ProcSim
