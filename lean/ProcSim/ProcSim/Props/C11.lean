import ProcSim.Lemmas.LoaderDefects
/-!
# C11 — descriptions are rejected iff defective, with the documented error and a real culprit

"A processor description is rejected iff it has a defect the loader documents: duplicate unit name, non-positive
width, a connection not naming exactly two known units, a cycle, an input port cut off from every output, no usable
input port, a capability that cannot reach any output, or a capability route with zero, several or inconsistent
read/write locks. The exception raised belongs to the class documented for a defect actually present, its fields
name a real culprit from the description […]."

Model: `ProcSim/Model/Loader.lean` (`Loader.load`); specification: `ProcSim/Spec/Loader.lean` (`Spec.defects`,
`Spec.culpritReal`, `Spec.C11_Holds`, checker `Spec.checkC11`).

All statements hold for every description, every `fold` and every decidable `<` on names.
The part of the property about the exception *text* is `Props/C11msg.lean` (`C11_message_contains_fields`).
-/

namespace ProcSim
namespace Loader
open Spec LoaderLocks LoaderRoutes LoaderBridge LoaderDefects

variable {N : Type} [DecidableEq N] [LT N] [DecidableRel (α := N) (· < ·)] (fold : N → N)

/-- **C11 (i)**: a description is accepted iff it has no documented defect -/
theorem C11_reject_iff_defect (d : Desc N) : (Loader.load fold d).isOk = true ↔ Spec.defects fold d = [] := by
  obtain ⟨hok, herr⟩ := load_defects fold d
  cases hl : Loader.load fold d with
  | ok p => exact ⟨fun _ => hok p hl, fun _ => rfl⟩
  | error e =>
    refine ⟨fun h => (nomatch h), fun h => ?_⟩
    have := (herr e hl).1
    rw [h] at this
    cases this

/-- **C11 (ii)**: the exception class is that of a defect present (at the first defective stage) -/
theorem C11_class_present {d : Desc N} {e : LoadError N} (h : Loader.load fold d = .error e) :
    e.cls ∈ Spec.defects fold d :=
  ((load_defects fold d).2 e h).1

/-- **C11 (iii)**: the fields of the exception name a real culprit -/
theorem C11_culprit_real {d : Desc N} {e : LoadError N} (h : Loader.load fold d = .error e) :
    culpritReal fold d e = true :=
  ((load_defects fold d).2 e h).2

/-- **C11**, bundled: the outcome of the model load satisfies the specification -/
theorem C11_holds (d : Desc N) : Spec.C11_Holds fold d (Spec.outcomeOf (Loader.load fold d)) := by
  have hiff := C11_reject_iff_defect fold d
  cases hl : Loader.load fold d with
  | ok p =>
    rw [hl] at hiff
    exact ⟨⟨fun _ => hiff.1 rfl, fun _ => trivial⟩, fun e he => (nomatch he), fun e he => (nomatch he)⟩
  | error e =>
    rw [hl] at hiff
    refine ⟨⟨fun h => h.elim, fun h => (nomatch hiff.2 h)⟩, fun e' he => ?_, fun e' he => ?_⟩
    · cases he
      exact C11_class_present fold hl
    · cases he
      exact C11_culprit_real fold hl

set_option linter.unusedSectionVars false in
/-- **`checkC11` decides `C11_Holds`** — for every description and every outcome -/
theorem C11_check_iff (d : Desc N) (o : Outcome N) : checkC11 fold d o = true ↔ C11_Holds fold d o := by
  cases o with
  | accepted =>
    simp only [checkC11, allPass, clausesC11, List.all_cons, List.all_nil, Bool.and_true, List.isEmpty_iff]
    constructor
    · intro h
      exact ⟨⟨fun _ => h, fun _ => trivial⟩, fun e he => (by cases he), fun e he => (by cases he)⟩
    · intro h
      exact h.iff_defective.1 trivial
  | rejected e =>
    simp only [checkC11, allPass, clausesC11, List.all_cons, List.all_nil, Bool.and_true, Bool.and_eq_true,
      Bool.not_eq_true', decide_eq_true_eq]
    constructor
    · rintro ⟨h1, h2, h3⟩
      refine ⟨⟨fun h => h.elim, fun h => ?_⟩, ?_, ?_⟩
      · rw [h] at h2; cases h2
      · intro e' he; cases he; exact h2
      · intro e' he; cases he; exact h3
    · intro h
      have h2 := h.classPresent e rfl
      refine ⟨?_, h2, h.culprit e rfl⟩
      cases hd : defects fold d with
      | nil => rw [hd] at h2; cases h2
      | cons a t => rfl

namespace C11Examples

def u (n : Nat) (w : Int) (caps : List Nat) (rd wr : Bool) : UnitD Nat := ⟨n, w, caps, rd, wr, []⟩

def errOf (d : Desc Nat) : Option (LoadError Nat) := match load id d with | .error e => some e | .ok _ => none

/-- accepted: a diamond `1 → 2 → 4`, `1 → 3 → 4` with the read lock at the input and the write lock at the output -/
def dOk : Desc Nat :=
  ⟨[u 1 1 [10] true false, u 2 1 [10] false false, u 3 2 [10] false false, u 4 1 [10] false true],
   [[1, 2], [1, 3], [2, 4], [3, 4]]⟩
example : (load id dOk).isOk = true ∧ defects id dOk = [] ∧ checkC11 id dOk (outcomeOf (load id dOk)) = true := by decide +kernel

def dDup : Desc Nat := ⟨[u 1 1 [10] true true, u 1 1 [10] false false], []⟩
example : errOf dDup = some (.dupElem 1 1) ∧ defects id dDup = [.dupElem] ∧
    checkC11 id dDup (outcomeOf (load id dDup)) = true := by decide +kernel

def dWidth : Desc Nat := ⟨[u 1 0 [10] true true], []⟩
example : errOf dWidth = some (.badWidth 1 0) ∧ defects id dWidth = [.badWidth] ∧
    checkC11 id dWidth (outcomeOf (load id dWidth)) = true := by decide +kernel

def dEdge : Desc Nat := ⟨[u 1 1 [10] true true], [[1]]⟩
example : errOf dEdge = some (.badEdge [1]) ∧ defects id dEdge = [.badEdge] ∧
    checkC11 id dEdge (outcomeOf (load id dEdge)) = true := by decide +kernel

def dUndef : Desc Nat := ⟨[u 1 1 [10] true true], [[1, 9]]⟩
example : errOf dUndef = some (.undefElem 9) ∧ defects id dUndef = [.undefElem] ∧
    checkC11 id dUndef (outcomeOf (load id dUndef)) = true := by decide +kernel

def dCyc : Desc Nat := ⟨[u 1 1 [10] true true, u 2 1 [10] false false], [[1, 2], [2, 1]]⟩
example : errOf dCyc = some .cyclic ∧ defects id dCyc = [.cyclic] ∧
    checkC11 id dCyc (outcomeOf (load id dCyc)) = true := by decide +kernel

/-- the input port `1` shares no capability with its only successor -/
def dDead : Desc Nat := ⟨[u 1 1 [10] true true, u 2 1 [20] false false], [[1, 2]]⟩
example : errOf dDead = some (.deadInput 1) ∧ defects id dDead = [.deadInput] ∧
    checkC11 id dDead (outcomeOf (load id dDead)) = true := by decide +kernel

def dEmpty : Desc Nat := ⟨[u 1 1 [] true true], []⟩
example : errOf dEmpty = some .emptyProc ∧ defects id dEmpty = [.emptyProc] ∧
    checkC11 id dEmpty (outcomeOf (load id dEmpty)) = true := by decide +kernel

/-- no lock at all on the only route -/
def dLock : Desc Nat := ⟨[u 1 1 [10] false false], []⟩
example : errOf dLock = some (.pathLock 1 .read 10) ∧ defects id dLock = [.pathLock] ∧
    checkC11 id dLock (outcomeOf (load id dLock)) = true := by decide +kernel

/-- capability `20` is offered at the input port `1` but its successor does not support it -/
def dBlocked : Desc Nat := ⟨[u 1 1 [10, 20] true true, u 2 1 [10] false false], [[1, 2]]⟩
example : errOf dBlocked = some (.blockedCap 20 1) ∧ defects id dBlocked = [.blockedCap] ∧
    checkC11 id dBlocked (outcomeOf (load id dBlocked)) = true := by decide +kernel

/-- the checker is not trivially true: a wrong class, a wrong culprit, a spurious rejection / acceptance -/
example : checkC11 id dBlocked (.rejected (.pathLock 1 .read 20)) = false := by decide +kernel
example : checkC11 id dBlocked (.rejected (.blockedCap 10 1)) = false := by decide +kernel
example : checkC11 id dOk (.rejected .cyclic) = false := by decide +kernel
example : checkC11 id dLock .accepted = false := by decide +kernel

end C11Examples

end Loader
end ProcSim
