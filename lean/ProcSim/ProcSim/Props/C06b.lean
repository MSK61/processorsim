import ProcSim.Lemmas.Termination
import ProcSim.Lemmas.Hazards
/-!
# C06 on the stall path

`Spec.C06Stall`: when the run ends in a stall error, the next instruction (if any) found every supporting input port
full — in the last recorded row, or in the empty record before the first cycle when the carried diagram is empty.  It is
the issue half of "nothing can progress" (`Spec.frozen`): `Term.stall_held_back`, from `Term.frozenRec_of_fixed`.
-/
namespace ProcSim
open Spec

variable {N : Type} [DecidableEq N] [LT N] [DecidableRel (α := N) (· < ·)]

/-- **C06 for the cycle in which a dead-lock is detected.** For every well-formed processor, every program and the
diagram carried by a stall error: the next instruction was held back with every supporting input port full. The
hypothesis on the program (`Hazards.ProgOK`, that of C08) is not used. -/
theorem C06_stall_held_back (p : Proc N) (prog : List (Instr N)) (tbl : List (Util N)) (stalled : Bool)
    (hwf : wfProc p = true) (hprog : Hazards.ProgOK prog) (h : Diagram p prog tbl stalled) :
    (Spec.C06Stall (ctx p prog tbl stalled)).ok = true := by
  cases stalled with
  | false => rfl
  | true => exact Term.stall_held_back (structOK_of_wfProc hwf) h

end ProcSim
